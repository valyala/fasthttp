/-
C26 — Request paths are fully normalised.
URI.Path() (model: Model.normalizePath, tied to uri.go by exhaustive small-scope + random correspondence)
equals RFC 3986 §5.2.4 remove_dot_segments applied to the path after adding a leading slash,
percent-decoding it and collapsing runs of slashes.
-/
import FhVerif.Proofs.NormPath
import FhVerif.Base.OfString

namespace Fh.Props.C26
open Fh Fh.Model Fh.Spec Fh.Proofs.NormPath

def rfcPath (src : Bytes) : Bytes :=
  unsegs (removeDotSegments (segs (collapseSlashes (addLeadingSlash src ++ decodeNoPlus src))))

/-- C26: for every request path, the normalised path is the RFC 3986 result. -/
theorem normalize_eq_rfc (src : Bytes) : normalizePath src = rfcPath src :=
  normalizePath_eq_rds src

theorem starts_with_slash (src : Bytes) : ∃ rest, normalizePath src = 47 :: rest := by
  obtain ⟨l, hl, wf⟩ := normalizePath_wf src
  cases l with
  | nil => exact absurd rfl wf.ne
  | cons s t => exact ⟨_, hl.trans (unsegs_cons s t)⟩

theorem rds_no_dot (l : List Seg) : ∀ st, (∀ s ∈ st, s ≠ dot ∧ s ≠ dotdot) →
    ∀ s ∈ rds st l, s ≠ dot ∧ s ≠ dotdot :=
  fun st hst => rds_noDots st l hst

/-- no segment of the normalised path is "." or "..", wherever it stands (also at the end) -/
theorem no_dot_or_dotdot_segment (src : Bytes) :
    ∃ l : List Seg, normalizePath src = unsegs l ∧ ∀ s ∈ l, s ≠ dot ∧ s ≠ dotdot :=
  ⟨_, normalize_eq_rfc src, rds_no_dot _ [] (by simp)⟩

/-! ### non-vacuity (the inputs the original code got wrong are covered) -/
example : normalizePath (ofString "/a/.") = ofString "/a/" := by
  simp only [ofString_eq]
  decide +kernel
example : normalizePath (ofString ".") = ofString "/" := by
  simp only [ofString_eq]
  decide +kernel
example : normalizePath (ofString "/a/b/../%2e%2E/c//d/./e/..") = ofString "/c/d/" := by
  simp only [ofString_eq]
  decide +kernel
example : normalizePath (ofString "a/%2") = ofString "/a/%2" := by
  simp only [ofString_eq]
  decide +kernel

end Fh.Props.C26

/-! ### what the theorems of this file rest on -/
#print axioms Fh.Props.C26.normalize_eq_rfc
#print axioms Fh.Props.C26.starts_with_slash
#print axioms Fh.Props.C26.rds_no_dot
#print axioms Fh.Props.C26.no_dot_or_dotdot_segment
