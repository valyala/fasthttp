/-
C30 — Integer codecs are exact.
The constants maxIntDiv10 / maxSafeIntDigits / maxHexIntChars are regenerated from /repo (Gen/Consts.lean).
-/
import FhVerif.Proofs.IntCodec
import FhVerif.Base.OfString

namespace Fh.Props.C30
open Fh Fh.Model Fh.Spec Fh.Proofs.IntCodec

/-- the overflow guard of parseUintBuf is exact, for either width of `int` -/
theorem guard_exact64 (v k : Nat) (hv : v ≤ maxInt 64) (hk : k ≤ 9) :
    ((v > Gen.maxIntDiv10 64 ∨ (10 * v + k) % 2 ^ 64 ≥ 2 ^ 63) ↔ 10 * v + k > maxInt 64) :=
  widthOK64.guard v k hv hk

theorem guard_exact32 (v k : Nat) (hv : v ≤ maxInt 32) (hk : k ≤ 9) :
    ((v > Gen.maxIntDiv10 32 ∨ (10 * v + k) % 2 ^ 32 ≥ 2 ^ 31) ↔ 10 * v + k > maxInt 32) :=
  widthOK32.guard v k hv hk

/-- skipping the test for the first maxSafeIntDigits digits is justified -/
theorem below_safe_digits_no_overflow64 : 10 ^ Gen.maxSafeIntDigits 64 ≤ maxInt 64 + 1 := widthOK64.safe_pow
theorem below_safe_digits_no_overflow32 : 10 ^ Gen.maxSafeIntDigits 32 ≤ maxInt 32 + 1 := widthOK32.safe_pow

theorem widthOK (w : Nat) (hw : w = 64 ∨ w = 32) : WidthOK w := by
  rcases hw with rfl | rfl
  · exact widthOK64
  · exact widthOK32

theorem parseUint_accepts {w : Nat} (hw : WidthOK w) (b : Bytes)
    (hne : b ≠ []) (hd : b.all isDigitB = true) (hfit : decVal b ≤ maxInt w) :
    parseUint w b = .ok (decVal b : Int) := by
  have h := (loop_digits w hw b 0 0 (Nat.zero_le _) Nat.one_pos hd).1 hfit
  rw [parseUint, parseUintBuf_ne_nil w hne, h, Nat.zero_add]
  exact if_neg (not_not_intro rfl)

/-- ParseUint reports an error for everything `parseUint_accepts` does not cover: never a wrapped or truncated result. -/
theorem parseUint_rejects {w : Nat} (hw : WidthOK w) (b : Bytes)
    (h : ¬ (b ≠ [] ∧ b.all isDigitB = true ∧ decVal b ≤ maxInt w)) :
    ∃ e, parseUint w b = .error e := by
  by_cases hne : b = []
  · subst hne; exact ⟨.empty, rfl⟩
  rw [parseUint, parseUintBuf_ne_nil w hne]
  by_cases hd : b.all isDigitB = true
  · have herr := (loop_digits w hw b 0 0 (Nat.zero_le _) Nat.one_pos hd).2
      (Nat.not_le.1 fun hle => h ⟨hne, hd, hle⟩)
    split
    · exact ⟨_, rfl⟩
    · rw [herr]; exact ⟨_, rfl⟩
  · have hn := (loop_n w b 0 0).2 (Bool.not_eq_true _ ▸ hd)
    rw [Nat.zero_add] at hn
    exact ⟨_, if_pos (Nat.ne_of_lt hn)⟩

/-- C30 (ParseUint half): accepted ⇔ non-empty decimal string fitting an int, and then the value is exact. -/
theorem parseUint_exact (w : Nat) (hw : w = 64 ∨ w = 32) (b : Bytes) (n : Int) :
    parseUint w b = .ok n ↔ (b ≠ [] ∧ b.all isDigitB = true ∧ decVal b ≤ maxInt w ∧ n = (decVal b : Int)) := by
  by_cases hc : b ≠ [] ∧ b.all isDigitB = true ∧ decVal b ≤ maxInt w
  · rw [parseUint_accepts (widthOK w hw) b hc.1 hc.2.1 hc.2.2]
    exact ⟨fun h => ⟨hc.1, hc.2.1, hc.2.2, (Except.ok.inj h).symm⟩, fun h => h.2.2.2 ▸ rfl⟩
  · obtain ⟨e, he⟩ := parseUint_rejects (widthOK w hw) b hc
    rw [he]
    exact ⟨nofun, fun h => absurd ⟨h.1, h.2.1, h.2.2.1⟩ hc⟩

/-- the same, against the executable contract `Spec.parseUintSpec` used by the run-time monitor -/
theorem parseUint_eq_spec (w : Nat) (hw : w = 64 ∨ w = 32) (b : Bytes) :
    (parseUint w b).toOption = (parseUintSpec w b).map (fun n => (n : Int)) := by
  unfold parseUintSpec
  split
  · rename_i h; rw [parseUint_accepts (widthOK w hw) b h.1 h.2.1 h.2.2]; rfl
  · rename_i h; obtain ⟨e, he⟩ := parseUint_rejects (widthOK w hw) b h; rw [he]; rfl

theorem appendUint_spec (n : Nat) :
    appendUint n ≠ [] ∧ (appendUint n).all isDigitB = true ∧ ∀ v, decFrom v (appendUint n) = v * 10 ^ (appendUint n).length + n := by
  induction n using appendUint.induct with
  | case1 n h =>
    rw [appendUint, dif_pos h]
    refine ⟨List.cons_ne_nil _ _, by rw [List.all_cons, (digit_byte h).1]; rfl, fun v => ?_⟩
    exact ((digit_byte h).2 v).trans (by rw [Nat.mul_comm]; rfl)
  | case2 n h ih =>
    rw [appendUint, dif_neg h]
    have hd := digit_byte (Nat.mod_lt n (by decide : 0 < 10))
    refine ⟨by simp, by rw [List.all_append, ih.2.1, List.all_cons, hd.1]; rfl, fun v => ?_⟩
    rw [decFrom_append, ih.2.2 v, List.length_append, List.length_singleton, Nat.pow_succ]
    refine (hd.2 _).trans ?_
    rw [Nat.mul_add, Nat.add_assoc, Nat.div_add_mod, Nat.mul_left_comm, Nat.mul_comm 10]

theorem appendUint_parse_inverse (w : Nat) (hw : w = 64 ∨ w = 32) (n : Nat) (hn : n ≤ maxInt w) :
    parseUint w (appendUint n) = .ok (n : Int) := by
  obtain ⟨h1, h2, h3⟩ := appendUint_spec n
  have hv : decVal (appendUint n) = n := by have := h3 0; simpa [decVal] using this
  rw [parseUint_accepts (widthOK w hw) (appendUint n) h1 h2 (by rw [hv]; exact hn), hv]

/-- A chunk size written by writeHexInt reads back to the same value, leaving exactly the bytes that follow it
    (which start with a non-hex byte, e.g. CR, or are empty). `m` = maxHexIntChars. -/
theorem hex_roundtrip (m n : Nat) (hm : 1 ≤ m) (hn : n < 16 ^ m) (rest : Bytes)
    (hrest : ∀ c r, rest = c :: r → (hex2int c).toNat = 16) :
    readHexInt m (writeHexInt n ++ rest) = .ok (n, rest) := by
  have hlen := writeHex_length n m hm hn
  have hpos : 0 < (writeHexInt n).length := by rw [writeHexInt]; split <;> simp
  rw [readHexInt, readHex_write m n 0 0 rest (by omega), Nat.zero_mul, Nat.zero_add, Nat.zero_add]
  cases rest with
  | nil => exact if_pos hpos
  | cons c r => rw [readHexLoop]; simp only [hrest c r rfl, if_true, if_neg (Nat.ne_of_gt hpos)]

theorem hex_roundtrip64 (n : Nat) (hn : n < 16 ^ Gen.maxHexIntChars64) (rest : Bytes)
    (hrest : ∀ c r, rest = c :: r → (hex2int c).toNat = 16) :
    readHexInt Gen.maxHexIntChars64 (writeHexInt n ++ rest) = .ok (n, rest) :=
  hex_roundtrip _ n (by decide) hn rest hrest

theorem hex_roundtrip32 (n : Nat) (hn : n < 16 ^ Gen.maxHexIntChars32) (rest : Bytes)
    (hrest : ∀ c r, rest = c :: r → (hex2int c).toNat = 16) :
    readHexInt Gen.maxHexIntChars32 (writeHexInt n ++ rest) = .ok (n, rest) :=
  hex_roundtrip _ n (by decide) hn rest hrest

/-- the platform limits leave no room for overflow in `n<<4 | k`: every accepted value is below 2^60 (2^28) -/
theorem hex_limit_no_overflow : 16 ^ Gen.maxHexIntChars64 ≤ 2 ^ 63 ∧ 16 ^ Gen.maxHexIntChars32 ≤ 2 ^ 31 := by
  decide

theorem hex_longer_than_limit_rejected (m : Nat) (ds rest : Bytes)
    (hds : ∀ c ∈ ds, (hex2int c).toNat ≠ 16) (hlen : ds.length > m) :
    readHexInt m (ds ++ rest) = .error .tooLarge := by
  exact readHex_too_long m ds 0 0 rest hds (Nat.zero_le m) (by omega)

/-! at the boundaries -/
def errOf {α ε} : Except ε α → Option ε | .error e => some e | .ok _ => none
example : (parseUint 64 (ofString "9223372036854775807")).toOption = some 9223372036854775807 := by
  simp only [ofString_eq]
  decide +kernel
example : ∃ e, parseUint 64 (ofString "9223372036854775808") = .error e :=
  parseUint_rejects widthOK64 _ (by decide +kernel)
example : errOf (parseUint 64 (ofString "18446744073709551617")) = some .trailing := by
  simp only [ofString_eq]
  decide +kernel
example : ∃ e, parseUint 32 (ofString "2147483648") = .error e :=
  parseUint_rejects widthOK32 _ (by decide +kernel)
example : appendUint 1203 = ofString "1203" := by
  simp only [ofString_eq]
  decide +kernel
example : writeHexInt 48879 = ofString "beef" := by
  simp only [ofString_eq]
  decide +kernel
example : (readHexInt 15 (ofString "beef\r\n")).toOption = some (48879, ofString "\r\n") := by
  simp only [ofString_eq]
  decide +kernel

end Fh.Props.C30

/-! ### what the theorems of this file rest on -/
#print axioms Fh.Props.C30.guard_exact64
#print axioms Fh.Props.C30.guard_exact32
#print axioms Fh.Props.C30.below_safe_digits_no_overflow64
#print axioms Fh.Props.C30.below_safe_digits_no_overflow32
#print axioms Fh.Props.C30.widthOK
#print axioms Fh.Props.C30.parseUint_accepts
#print axioms Fh.Props.C30.parseUint_rejects
#print axioms Fh.Props.C30.parseUint_exact
#print axioms Fh.Props.C30.parseUint_eq_spec
#print axioms Fh.Props.C30.appendUint_spec
#print axioms Fh.Props.C30.appendUint_parse_inverse
#print axioms Fh.Props.C30.hex_roundtrip
#print axioms Fh.Props.C30.hex_roundtrip64
#print axioms Fh.Props.C30.hex_roundtrip32
#print axioms Fh.Props.C30.hex_limit_no_overflow
#print axioms Fh.Props.C30.hex_longer_than_limit_rejected
