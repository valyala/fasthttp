/-
C25 — FS file handles are released exactly once and never read after close.

Model: Model/FsCache.lean, one event per critical section of the cache manager / reader bookkeeping; `init true` is the
SkipCache manager.  Everything below is proved for ALL event lists, i.e. for every interleaving of the modelled atomic steps.

Level: proof, partial.  `C25_full` is proved for the MODEL (`fair_run_releases_everything`).  What is NOT shown (residue): that
the Go scheduler produces runs satisfying its hypotheses (readers are eventually closed, the cleaner/CleanStop/runtime.AddCleanup eventually deliver `close`), and that the
Go code's critical sections are the model's atomic steps; the latter is tied by the C25 harness (scripted op sequences
against an instrumented fs.FS + concurrent recorded histories whose per-object counters are checked at quiescence).
-/
import FhVerif.Proofs.FsCache

namespace Fh.Props.C25
open Fh Fh.Model Fh.Proofs.FsCache

def Reachable (s : St) : Prop := ∃ c evs, run (init c) evs = some s

theorem reachable_inv (s : St) (h : Reachable s) : Inv s := by
  obtain ⟨c, evs, hr⟩ := h
  exact inv_run evs (init c) s (inv_init c) hr

theorem reachable_step (s s' : St) (e : Ev) (h : Reachable s) (hs : step s e = some s') : Reachable s' := by
  obtain ⟨c, evs, hr⟩ := h
  refine ⟨c, evs ++ [e], ?_⟩
  rw [run_eq_iter] at hr ⊢
  rw [Iter.iter_snoc hr, hs]

/-- what holds in every state of a run: released at most once; whoever reads or holds a reference sees an unreleased
    object; a released object has no reference and no reader -/
def SafeState (s : St) : Prop :=
  ∀ (i : Nat) (o : Obj), s.objs[i]? = some o →
    o.released ≤ 1 ∧ (0 < o.readers → o.released = 0) ∧ (o.released = 1 → o.readers = 0 ∧ o.out = 0) ∧ o.out ≤ o.readers

theorem reachable_safe (s : St) (hr : Reachable s) : SafeState s := by
  intro i o h
  have hj := reachable_inv s hr i o h
  refine ⟨hj.rel_le, hj.live, fun h1 => ?_, hj.out_le⟩
  have hr0 := (hj.rel_idle h1).1
  exact ⟨hr0, Nat.eq_zero_of_le_zero (hr0 ▸ hj.out_le)⟩

/-- C25: no file object is released (closed) more than once. -/
theorem released_le_one (s : St) (hr : Reachable s) (i : Nat) (o : Obj) (h : s.objs[i]? = some o) :
    o.released ≤ 1 :=
  (reachable_inv s hr i o h).rel_le

/-- C25: a step that releases an object leaves it without any reference (readersCount = 0) and without any reader,
    and it was not released before; by `released_is_final` it stays like that. -/
theorem release_requires_zero_readers (s s' : St) (e : Ev) (hr : Reachable s) (hs : step s e = some s')
    (i : Nat) (o o' : Obj) (_h : s.objs[i]? = some o) (h' : s'.objs[i]? = some o') (hlt : o.released < o'.released) :
    o'.readers = 0 ∧ o'.out = 0 ∧ o.released = 0 ∧ o'.released = 1 := by
  obtain ⟨h1, _, h3, _⟩ := reachable_safe s' (reachable_step s s' e hr hs) i o' h'
  have h2 : o'.released = 1 := by omega
  exact ⟨(h3 h2).1, (h3 h2).2, by omega, h2⟩

/-- C25: a reader can only read an object that has not been released. -/
theorem no_read_after_release (s s' : St) (hr : Reachable s) (i : Nat) (hs : step s (.read i) = some s') :
    ∃ o, s.objs[i]? = some o ∧ o.released = 0 ∧ 0 < o.out ∧ 0 < o.readers := by
  have hen := (step_shape s s' _ hs).1
  rw [enabled] at hen
  split at hen
  next o ho =>
    have hj := reachable_inv s hr i o ho
    have hout : 0 < o.out := of_decide_eq_true hen
    have hrd : 0 < o.readers := Nat.lt_of_lt_of_le hout hj.out_le
    exact ⟨o, ho, hj.live hrd, hout, hrd⟩
  next => cases hen

/-- a released object is never touched again: no event changes it, no event can read it or take a reference -/
theorem released_is_final (s s' : St) (e : Ev) (hr : Reachable s) (hs : step s e = some s')
    (i : Nat) (o : Obj) (h : s.objs[i]? = some o) (hrel : o.released = 1) : s'.objs[i]? = some o := by
  have hj := reachable_inv s hr i o h
  obtain ⟨hr0, hloc⟩ := hj.rel_idle hrel
  rw [step_obj hs h]
  refine congrArg some ?_
  -- an event changes only objects that are held or referenced
  rcases (tr_touch s e i o h hj (step_shape s s' e hs).1).live with hs | hl | hl
  · exact hs
  · exact absurd hloc hl
  · omega

/-- private handles of big-file readers: while the object lives, opened = closed + pooled + in use (so no handle in use
    is closed and none is lost); after Release every one of them is closed. -/
theorem handles_balanced (s : St) (hr : Reachable s) (i : Nat) (o : Obj) (h : s.objs[i]? = some o) :
    (o.released = 0 → o.hOpened = o.hClosed + o.pool + (if o.big then o.out else 0)) ∧
    (o.released = 1 → o.hOpened = o.hClosed) :=
  ⟨(reachable_inv s hr i o h).handles_live, (reachable_inv s hr i o h).handles_done⟩

/-- C25: an object opened on a path that ends in an error is released by that error exit. -/
theorem error_exit_releases (s s' : St) (hr : Reachable s) (i : Nat) (hs : step s (.fail i) = some s') :
    ∃ o o', s.objs[i]? = some o ∧ o.released = 0 ∧ s'.objs[i]? = some o' ∧ o'.released = 1 := by
  have hen := (step_shape s s' _ hs).1
  rw [enabled] at hen
  split at hen
  next o ho =>
    have h0 : o.released = 0 := (reachable_inv s hr i o ho).held (eq_of_beq hen ▸ nofun)
    refine ⟨o, _, ho, h0, step_obj hs ho, ?_⟩
    rw [tr, if_pos rfl]
    exact congrArg (· + 1) h0
  next => cases hen

/-- per object: once the manager is closed, an object nobody references and that is not in flight is released -/
theorem idle_object_released_when_closed (s : St) (hr : Reachable s) (hc : s.closed = true)
    (i : Nat) (o : Obj) (h : s.objs[i]? = some o) (hidle : o.readers = 0) (hnf : o.loc ≠ .fresh) :
    o.released = 1 ∧ o.hOpened = o.hClosed := by
  have hj := reachable_inv s hr i o h
  rw [hc] at hj
  have hle := hj.rel_le
  have h1 : o.released = 1 := by
    by_cases h0 : o.released = 0
    · cases hl : o.loc with
      | fresh => exact absurd hl hnf
      | cached k p => exact absurd hl (hj.closed_nocache rfl k p)
      | pending => have := hj.closed_pending rfl hl; omega
      | detached => have := (hj.detached_live hl h0).2; omega
    · omega
  exact ⟨h1, hj.handles_done h1⟩

/-- C25: after `close`, and once every reader is closed and every reference returned (nothing in flight), every file
    object that was ever opened — including those opened on paths that ended in an error — has been released exactly
    once, together with all its private handles. -/
theorem eventually_released (s : St) (hr : Reachable s) (hc : s.closed = true)
    (hq : ∀ (i : Nat) (o : Obj), s.objs[i]? = some o → o.readers = 0 ∧ o.loc ≠ .fresh) :
    ∀ (i : Nat) (o : Obj), s.objs[i]? = some o → o.released = 1 ∧ o.hOpened = o.hClosed := by
  intro i o h
  exact idle_object_released_when_closed s hr hc i o h (hq i o h).1 (hq i o h).2

/-- without closing the manager: the cleaner releases an idle entry that expired, and an idle pending file -/
theorem clean_releases_idle (s s' : St) (ex : List Nat) (hr : Reachable s) (hc : s.closed = false)
    (hs : step s (.clean ex) = some s') (i : Nat) (o : Obj) (h : s.objs[i]? = some o) (hidle : o.readers = 0)
    (hloc : o.loc = .pending ∨ ((∃ k p, o.loc = .cached k p) ∧ ex.contains i = true)) :
    ∃ o', s'.objs[i]? = some o' ∧ o'.released = 1 := by
  have hj := reachable_inv s hr i o h
  refine ⟨_, step_obj hs h, ?_⟩
  rcases hloc with hl | ⟨⟨k, p, hl⟩, hx⟩
  · have h0 : o.released = 0 := hj.held (hl ▸ nofun)
    simp [tr, hc, hl, hidle, rel, h0]
  · have h0 : o.released = 0 := hj.held (hl ▸ nofun)
    have hx' : i ∈ ex := by simpa using hx
    simp [tr, hc, hl, hx', evict, hidle, rel, h0]

def prefixRun (c : Bool) (σ : Nat → Ev) (n : Nat) : Option St := run (init c) ((List.range n).map σ)

theorem prefixRun_succ (c : Bool) (σ : Nat → Ev) (n : Nat) :
    prefixRun c σ (n + 1) = (prefixRun c σ n).bind (fun b => step b (σ n)) := by
  unfold prefixRun
  rw [List.range_succ, List.map_append, run_eq_iter, run_eq_iter, Iter.iter_append]
  exact congrArg (Option.bind _) (funext fun b => Option.bind_fun_some (step b (σ n)))

theorem prefixRun_reachable (c : Bool) (σ : Nat → Ev) (n : Nat) (s : St) (h : prefixRun c σ n = some s) :
    Reachable s := ⟨c, _, h⟩

/-- objects stay where they are (as list positions) and a closed manager stays closed -/
def Keeps (s s' : St) : Prop :=
  (s.closed = true → s'.closed = true) ∧ ∀ (i : Nat) (o : Obj), s.objs[i]? = some o → ∃ o', s'.objs[i]? = some o'

theorem step_mono (s s' : St) (e : Ev) (hs : step s e = some s') : Keeps s s' := by
  refine ⟨fun h => ?_, fun i o ho => ⟨_, step_obj hs ho⟩⟩
  rw [(step_shape s s' e hs).2.1, closedAfter, h, ite_self]

theorem run_mono (s s' : St) (evs : List Ev) (h : run s evs = some s') : Keeps s s' :=
  Iter.rel (step := step) (fun _ => ⟨id, fun _ o ho => ⟨o, ho⟩⟩)
    (fun (_ _ _ : St) h1 h2 => ⟨fun hc => h2.1 (h1.1 hc), fun i o ho => let ⟨o1, h⟩ := h1.2 i o ho; h2.2 i o1 h⟩)
    (fun s e s' => step_mono s s' e) (run_eq_iter s evs ▸ h)

theorem prefix_mono (c : Bool) (σ : Nat → Ev) {n m : Nat} (hnm : n ≤ m) (s s' : St) (h : prefixRun c σ n = some s)
    (h' : prefixRun c σ m = some s') : Keeps s s' := by
  -- the longer prefix is the shorter one followed by a run from `s`
  obtain ⟨k, rfl⟩ := Nat.exists_eq_add_of_le hnm
  unfold prefixRun at h h'
  rw [List.range_add, List.map_append, run_eq_iter, Iter.iter_append, ← run_eq_iter, h] at h'
  exact run_mono s s' _ ((run_eq_iter _ _).trans h')

/-- C25, full statement over schedules: take ANY infinite schedule of the modelled events that is executable
    (`hexec`: the environment follows the reference protocol and the code never hits its readersCount panic), in which
    the manager is eventually closed (`hclose`: CleanStop / runtime.AddCleanup / SkipCache) and in which every object is,
    again and again, not in use (`hidle`: every response body is eventually closed, every opened file eventually reaches
    the cache or an error exit).  Then every state of the run is safe, and every file object that is ever opened is
    released — exactly once, by `SafeState` and `released_is_final` — together with all its private handles. -/
def C25_full : Prop :=
  ∀ (c : Bool) (σ : Nat → Ev),
    (∀ n, ∃ s, prefixRun c σ n = some s) →
    (∃ n s, prefixRun c σ n = some s ∧ s.closed = true) →
    (∀ (n i : Nat), ∃ m s, n ≤ m ∧ prefixRun c σ m = some s ∧
        ∀ o, s.objs[i]? = some o → o.readers = 0 ∧ o.loc ≠ .fresh) →
    (∀ n s, prefixRun c σ n = some s → SafeState s) ∧
    (∀ n s (i : Nat) (o : Obj), prefixRun c σ n = some s → s.objs[i]? = some o →
        ∃ m s' o', n ≤ m ∧ prefixRun c σ m = some s' ∧ s'.objs[i]? = some o' ∧ o'.released = 1 ∧ o'.hOpened = o'.hClosed)

/-- the full statement holds for the model (the residue of C25 is outside it: that real executions are such runs) -/
theorem fair_run_releases_everything : C25_full := by
  intro c σ _ hclose hidle
  refine ⟨fun n s h => reachable_safe s (prefixRun_reachable c σ n s h), ?_⟩
  intro n s i o hn ho
  obtain ⟨n0, s0, hn0, hc0⟩ := hclose
  obtain ⟨m, sm, hm, hsm, hq⟩ := hidle (max n n0) i
  have hnm : n ≤ m := Nat.le_trans (Nat.le_max_left n n0) hm
  obtain ⟨om, hom⟩ := (prefix_mono c σ hnm s sm hn hsm).2 i o ho
  have hcl := (prefix_mono c σ (Nat.le_trans (Nat.le_max_right n n0) hm) s0 sm hn0 hsm).1 hc0
  have := idle_object_released_when_closed sm (prefixRun_reachable c σ m sm hsm) hcl i om hom (hq om hom).1 (hq om hom).2
  exact ⟨m, sm, om, hnm, hsm, hom, this.1, this.2⟩

/-! ### non-vacuity: concrete runs -/

-- a schedule satisfying the three hypotheses of `C25_full`: open, set, reader, close, a read, reader closed, gets for ever
def sched : Nat → Ev
  | 0 => .open_ true | 1 => .set 0 p0 0 | 2 => .readerNew 0 | 3 => .close | 4 => .read 0 | 5 => .readerClose 0 true
  | _ => .get 0 p0
where p0 : Bytes := [47, 97]
example : (prefixRun false sched 6).map (fun s => (s.closed, s.objs.map fun o => (o.released, o.readers, o.hOpened, o.hClosed))) =
    some (true, [(1, 0, 1, 1)]) := by decide +kernel

def p1 : Bytes := ofString "/a"

-- two requests race for the same path: the loser's file is released at once, the winner's after close + last reader
example : (run (init false) [.open_ true, .open_ true, .set 0 p1 0, .set 0 p1 1, .readerNew 0, .readerNew 0,
      .clean [0], .read 0, .readerClose 0 true, .close, .read 0, .readerClose 0 false]).map
      (fun s => s.objs.map fun o => (o.released, o.readers, o.hOpened, o.hClosed)) =
    some [(1, 0, 2, 2), (1, 0, 0, 0)] := by decide +kernel
-- the same history, observed just before the last reader closes: evicted and pending, still open, still readable
example : (run (init false) [.open_ true, .open_ true, .set 0 p1 0, .set 0 p1 1, .readerNew 0, .readerNew 0,
      .clean [0], .read 0, .readerClose 0 true, .close, .read 0]).map
      (fun s => s.objs.map fun o => (o.loc, o.released, o.readers, o.pool)) =
    some [(.pending, 0, 1, 1), (.detached, 1, 0, 0)] := by decide +kernel
-- reading after the release is not an event of the system; neither is a second decrement
example : run (init false) [.open_ false, .set 0 p1 0, .dec 0, .close, .read 0] = none := by decide +kernel
example : run (init false) [.open_ false, .set 0 p1 0, .dec 0, .dec 0] = none := by decide +kernel
-- error exit: opened, header sniffing fails, closed
example : (run (init false) [.open_ false, .fail 0]).map (fun s => s.objs.map (·.released)) = some [1] := by
  decide +kernel
-- SkipCache manager (`init true`): the last reader's close releases the file
example : (run (init true) [.open_ false, .set 0 p1 0, .readerNew 0, .read 0, .readerClose 0 true]).map
    (fun s => s.objs.map (·.released)) = some [1] := by decide +kernel

end Fh.Props.C25

/-! ### what the theorems of this file rest on -/
#print axioms Fh.Props.C25.reachable_inv
#print axioms Fh.Props.C25.reachable_step
#print axioms Fh.Props.C25.reachable_safe
#print axioms Fh.Props.C25.released_le_one
#print axioms Fh.Props.C25.release_requires_zero_readers
#print axioms Fh.Props.C25.no_read_after_release
#print axioms Fh.Props.C25.released_is_final
#print axioms Fh.Props.C25.handles_balanced
#print axioms Fh.Props.C25.error_exit_releases
#print axioms Fh.Props.C25.idle_object_released_when_closed
#print axioms Fh.Props.C25.eventually_released
#print axioms Fh.Props.C25.clean_releases_idle
#print axioms Fh.Props.C25.prefixRun_succ
#print axioms Fh.Props.C25.prefixRun_reachable
#print axioms Fh.Props.C25.step_mono
#print axioms Fh.Props.C25.run_mono
#print axioms Fh.Props.C25.prefix_mono
#print axioms Fh.Props.C25.fair_run_releases_everything
