/-
C08 — Message parsers terminate, never panic and never over-read.

Termination and absence of panics are carried by the models themselves: every parser model in FhVerif/Model is a total
Lean function (structural recursion or explicit fuel, no partial definitions, every index access bounds-carrying or
defaulted), and the correspondence harness runs the real parsers on arbitrary bytes under `recover` with a watchdog.
What is proved here is the "never over-read" half: consumption never exceeds the input and ends inside the message.
-/
import FhVerif.Props.C09
import FhVerif.Props.C02
import FhVerif.Props.C30
import FhVerif.Proofs.Args
import FhVerif.Proofs.StreamC34
import FhVerif.Base.OfString

namespace Fh.Props.C08
open Fh Fh.Model

theorem head_consumed_le_input {α : Type} (parse : Bytes → Bytes → α) (buf : Bytes) (a : α) (c : Nat)
    (h : parseHead parse buf = .parsed a c) : c ≤ buf.length := by
  obtain ⟨line, m, hf, hcase⟩ := C09.parseHead_parsed h
  have hm := (C09.firstLineGo_some buf [] 0 _ hf).1
  rcases hcase with ⟨hs, -, rfl⟩ | ⟨-, n, hre, -, -, rfl⟩
  · have := C09.startsCRLF_length hs
    rw [List.length_drop] at this; omega
  · have := (C09.rawEndGo_some (buf.drop m) [] 0 n hre).1
    rw [List.length_drop] at this; omega

/-- the chunk-size reader leaves a suffix of its input unread (it only moves forward, never past the end) -/
theorem readHex_rest_is_suffix (m : Nat) (s : Bytes) : ∀ (n i : Nat) (v : Nat) (rest : Bytes),
    readHexLoop m n i s = .ok (v, rest) → ∃ pre, s = pre ++ rest :=
  Proofs.StreamC34.readHexLoop_suffix m s

example : (readHexInt 15 (ofString "1f;x\r\n")).toOption = some (31, ofString ";x\r\n") := by
  simp only [ofString_eq]
  decide +kernel

theorem stream_never_over_reads (s : RS) (h : C02.RS.wf s) (rs : List (Nat × Nat)) : (s.run rs).connConsumed ≤ s.cl :=
  C02.never_over_reads s h rs

/-- percent-decoding never produces more bytes than it was given (no write past the source length: the Go code decodes in place) -/
theorem decodeArg_length_le (s : Bytes) : (decodeArg s).length ≤ s.length := by
  fun_induction decodeArg s with
  | case1 | case4 | case5 => exact Nat.le_refl _
  | case2 _ _ _ _ _ _ ih | case6 _ ih | case7 _ _ _ _ _ _ ih => exact Nat.succ_le_succ ih
  -- `%XX` decoded: one byte out for three in
  | case3 _ _ _ _ _ _ ih => exact Nat.succ_le_succ (Nat.le_trans ih (Nat.le_add_right _ 2))

end Fh.Props.C08

/-! ### what the theorems of this file rest on -/
#print axioms Fh.Props.C08.head_consumed_le_input
#print axioms Fh.Props.C08.readHex_rest_is_suffix
#print axioms Fh.Props.C08.stream_never_over_reads
#print axioms Fh.Props.C08.decodeArg_length_le
