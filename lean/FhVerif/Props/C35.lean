/-
C35 — Multipart forms round-trip; upload temp files do not outlive the request.

Proof, partial.  Proved: on every path the serve loop can take no temporary file of an earlier request exists when the
next request is dispatched or when the connection is closed — files of timed-out requests excepted, as the property
states.  Not proved (third party): that mime/multipart's Form.RemoveAll really deletes the files, and the
WriteMultipartForm ↔ ReadForm round trip; the harness checks both on every run.
-/
import FhVerif.Proofs.MultipartC35

namespace Fh.Props.C35
open Fh Fh.Model.C35 Fh.Proofs.MultipartC35

/-- C35: for every event sequence the serve loop admits, at the moment the handler of a request is called every
    temporary file on disk (not owned by a timed-out request) was created by THAT request's own pre-parse — none is
    left from request k when request k+1 is dispatched — and when the connection is closed none is left at all. -/
theorem no_tempfile_at_next_dispatch_or_close (evs : List MEv) (s s' : MSt) (e : MEv)
    (hrun : mrun {} evs = some s) (hstep : mstep s e = some s') :
    (e = .dispatch → ∀ f ∈ liveFiles s', f = s'.reqNum) ∧ (e = .close → liveFiles s' = []) := by
  have hinv' : MInv s' := mstep_inv (mrun_inv minv_init hrun) hstep
  constructor
  · exact fun _ f hf => (hinv'.liveFiles_owned f hf).2
  · rintro rfl
    obtain ⟨_, rfl⟩ := of_guard hstep
    exact hinv'.liveFiles_nil rfl

/-- what the loop really does: the files are gone as soon as it is back at its top (and after releaseCtx), before the
    next request is read -/
theorem no_tempfile_between_requests (evs : List MEv) (s : MSt) (hrun : mrun {} evs = some s)
    (hph : s.phase = .idle ∨ s.phase = .released ∨ s.phase = .closed) : liveFiles s = [] :=
  (mrun_inv minv_init hrun).liveFiles_nil (by rcases hph with h | h | h <;> rw [h] <;> rfl)

/-- the exception is real: a timed-out request's files stay until the handler goroutine that owns that ctx removes them -/
theorem timed_out_request_keeps_its_files :
    ∃ evs s, mrun {} evs = some s ∧ s.phase = .closed ∧ s.files ≠ [] ∧ liveFiles s = [] :=
  ⟨[.readOk true 1, .dispatch, .timeout, .handlerRet, .writeOk false, .release, .close], _, rfl, by decide, by decide, by decide⟩

-- pre-parsed upload (1 temp file), keep-alive, next request dispatched: nothing left
example : (mrun {} [.readOk true 1, .dispatch, .handlerRet, .writeOk true, .loopReset, .readOk false 0, .dispatch]).map
    (fun s => (s.files, s.reqNum)) = some ([], 2) := by decide +kernel
-- the file exists while its own request is being handled
example : (mrun {} [.readOk true 1, .dispatch]).map (·.files) = some [1] := by decide +kernel
-- on-demand parse in a streaming handler, then Connection: close
example : (mrun {} [.readOk false 0, .dispatch, .parse 2, .handlerRet, .writeOk false, .release, .close]).map (·.files)
    = some [] := by decide +kernel
example : (mrun {} [.readOk false 0, .dispatch, .parse 2]).map (·.files) = some [1, 1] := by decide +kernel
-- handler removes the files itself, parses again, write fails
example : (mrun {} [.readOk true 1, .dispatch, .removeFiles, .parse 1, .handlerRet, .writeErr, .release, .close]).map (·.files)
    = some [] := by decide +kernel
-- parse error while reading the request
example : (mrun {} [.readOk true 3, .dispatch, .handlerRet, .writeOk true, .loopReset, .readErr, .release, .close]).map (·.files)
    = some [] := by decide +kernel
-- MultipartFormWithLimit on a stream: the form parsed (one temp file) but the body exceeds the limit: the file is gone
-- when the call returns
example : (mrun {} [.readOk false 0, .dispatch, .parseTooLarge 1]).map (·.files) = some [] := by decide +kernel
example : (mrun {} [.readOk false 0, .dispatch, .parseTooLarge 1, .handlerRet, .writeOk true, .loopReset, .readOk false 0,
    .dispatch]).map (·.files) = some [] := by decide +kernel
-- pre-parse: the form parsed (one temp file), then the rest of the declared body could not be read
example : (mrun {} [.readDrainFail 1 true, .release, .close]).map (·.files) = some [] := by decide +kernel
example : (mrun {} [.readOk true 1, .dispatch, .handlerRet, .writeOk true, .loopReset, .readDrainFail 2 false, .release,
    .close]).map (·.files) = some [] := by decide +kernel
-- events the loop cannot produce are rejected
example : mrun {} [.dispatch] = none := by decide +kernel
example : mrun {} [.readOk true 1, .dispatch, .handlerRet, .writeOk true, .readOk true 1] = none := by decide +kernel

end Fh.Props.C35

/-! ### what the theorems of this file rest on -/
#print axioms Fh.Props.C35.no_tempfile_at_next_dispatch_or_close
#print axioms Fh.Props.C35.no_tempfile_between_requests
#print axioms Fh.Props.C35.timed_out_request_keeps_its_files
