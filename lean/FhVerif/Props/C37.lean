/-
C37 — Documented-concurrent APIs are free of data races.      Level: proof, partial — THE WEAKEST CLAIM OF THE FRAMEWORK.

What is proved:
  * lockset_orders_conflicts   (generic) in every trace that respects mutual exclusion (Mutex/RWMutex semantics) and in
                               which every access to a field f holds the lock L f (exclusively for a write, at least
                               shared for a read), two conflicting accesses to f by different threads are separated by a
                               release of L f by the first thread followed by an acquisition of L f by the second: a
                               release→acquire edge, so no data race on f (`no_race_partial`: the same about `Race`).
  * table_obeys_discipline     `decide` over the access table REGENERATED from /repo's AST on every run (Gen/Locks.lean,
                               extract/locks.go).  Fields: the explicit list `Gen.lockSpec` PLUS, inferred on every run,
                               EVERY field of a package struct that is written while a mutex is held somewhere (then every
                               access, reads included, must hold that mutex) and every field accessed atomically somewhere
                               (then every access must be atomic).
                               Every syntactic access site holds the field's mutex (or is atomic / initialisation / one of the
                               exceptions listed with their reasons in extract/locks.go: ctorAllow, exemptAllow,
                               noGuardInference), nothing is unclassified, and every listed field still has access sites.
                               A code change that touches such a field without its lock — a new lock-free "fast path" read
                               included — or that the analysis cannot classify, breaks this theorem.
  * handover_respected         `decide` over the hand-over facts regenerated by extract/handover.go, for the one object
                               protected by ownership instead of a mutex (*pipelineWork): see the theorem.
What is NOT proved (named residue — this is why the level is "partial" and why this is the weakest claim):
  * that the executions of the Go program are traces of the model in which the syntactically held locks are really
    held (the go/ast lock analysis is trusted: same-function Lock…Unlock, helpers judged by the locks held at all their
    call sites, callbacks passed as call arguments assumed synchronous, the mutex INSTANCE is not tracked);
  * ownership protocols other than the one of *pipelineWork (RequestCtx/Request/Response hand-over between caller and
    library, sync.Pool recycling, stackless work items): the lockset discipline does not cover objects that are protected
    by "one owner at a time" instead of a lock — those are reached only by the race-detector stress;
  * fields outside the list, byte-slice and map aliasing (a map handed to a helper is judged at the hand-over only),
    RequestCtx retention rules, sync.Pool hand-over, channels;
  * atomic accesses are taken as race-free by the Go memory model, not modelled;
  * exempt rows (RequestCtx.Done reading Server.done, ordered by the `open` counter; TimeoutHandler reading
    Server.concurrencyCh, written once under s.mu before the reader's Serve/ServeConn serves; Client.hostClient reading the
    map handles after mOnce) and perIPConn.Conn (lock only makes Close idempotent) are documented, not proved;
  * a field whose EVERY write lost its lock at once is still caught only if it is on the explicit list (the inference
    needs one locked write to learn the guard) — the fields inferred on the pinned tree were therefore made explicit.
`C37_full` (no data race in any documented schedule) is therefore NOT claimed; when the table theorem breaks, the check
searches for a concrete racing schedule with the Go race detector (harness c37).
-/
import FhVerif.Proofs.Lockset
import FhVerif.Gen.Locks

namespace Fh.Props.C37
open Fh.Model.Lockset Fh.Proofs.Lockset

/-- C37, generic half (in words: file head, under this name); the proof needs `hd` only, not `hwf` -/
theorem lockset_orders_conflicts (L : Field → Lock) (tr : List Ev) (hwf : WF tr) (hd : Disciplined L tr)
    (pre mid post : List Ev) (f : Field) (t1 t2 : Tid) (w1 w2 : Bool)
    (htr : tr = pre ++ (Ev.acc f t1 w1 :: (mid ++ (Ev.acc f t2 w2 :: post))))
    (hne : t1 ≠ t2) (hconf : w1 = true ∨ w2 = true) :
    ∃ m1 e1 m2 e2 m3, mid = m1 ++ (e1 :: (m2 ++ (e2 :: m3))) ∧ isRelease (L f) t1 e1 ∧ isAcquire (L f) t2 e2 := by
  have _ := hwf   -- not needed: `hd` already gives the runs of `L f`
  obtain ⟨s, hs, hh1⟩ := hd pre f t1 w1 (mid ++ (Ev.acc f t2 w2 :: post)) htr
  obtain ⟨s', hs', hh2⟩ := hd (pre ++ (Ev.acc f t1 w1 :: mid)) f t2 w2 post (by rw [htr]; simp)
  -- the lock state after `mid`, started from the state at the first access
  have hmid : runL (L f) s mid = some s' := by
    rw [run_append, hs] at hs'
    simpa [runL, stepL] using hs'
  obtain ⟨m1, e1, m2, e2, m3, hm, hr, ha⟩ := order hne hconf (inv_run (L f) pre {} s inv_init hs) hh1 hmid hh2
  exact ⟨m1, e1, m2, e2, m3, hm, hr, ha.imp id And.right⟩

/-- a data race on f: two conflicting accesses by different threads with no release-by-the-first followed by
    acquire-by-the-second of f's lock in between -/
def Race (L : Field → Lock) (tr : List Ev) (f : Field) : Prop :=
  ∃ pre mid post t1 t2 w1 w2, tr = pre ++ (Ev.acc f t1 w1 :: (mid ++ (Ev.acc f t2 w2 :: post))) ∧ t1 ≠ t2 ∧ (w1 = true ∨ w2 = true) ∧
    ¬ ∃ m1 e1 m2 e2 m3, mid = m1 ++ (e1 :: (m2 ++ (e2 :: m3))) ∧ isRelease (L f) t1 e1 ∧ isAcquire (L f) t2 e2

/-- partial: about traces of the model, see header -/
theorem no_race_partial (L : Field → Lock) (tr : List Ev) (hwf : WF tr) (hd : Disciplined L tr) (f : Field) : ¬ Race L tr f := by
  rintro ⟨pre, mid, post, t1, t2, w1, w2, htr, hne, hc, hno⟩
  exact hno (lockset_orders_conflicts L tr hwf hd pre mid post f t1 t2 w1 w2 htr hne hc)

/-- C37, regenerated half (file head, under this name) -/
theorem table_obeys_discipline : tableOK Gen.lockSpec Gen.lockRows = true := by decide +kernel

/-- C37, ownership hand-over (regenerated by extract/handover.go): a *pipelineWork is protected by no mutex; it changes
    owner through channels (`chW <- w` caller→worker, `chR <- w` writer→reader, `w.done <- …` back to the caller). No
    function touches a work item it has handed over, except its timer `w.t` and the channel `w.done` it waits on — in
    particular DoDeadline's timeout path leaves `w` alone — and the hand-over points are still where the analysis finds them. -/
theorem handover_respected : Gen.handoverRows = [] ∧ 20 ≤ Gen.handoverSites := by decide

/-- the extraction has not silently shrunk: at least 250 access sites, at least 55 listed fields -/
theorem table_nonempty : 250 ≤ Gen.lockRows.length ∧ 55 ≤ Gen.lockSpec.length := by decide +kernel

/-- the property at full strength: not claimed (see header) -/
def C37_full : Prop :=
  ∀ (L : Field → Lock) (tr : List Ev), WF tr → ∀ f, ¬ Race L tr f

/-- without the discipline the model does have races: two unlocked writes by different threads -/
theorem C37_full_counterexample : ¬ C37_full := by
  intro h
  apply h (fun _ => 0) [Ev.acc 0 1 true, Ev.acc 0 2 true] (by intro l; rfl) 0
  refine ⟨[], [], [], 1, 2, true, true, rfl, by decide, Or.inl rfl, ?_⟩
  rintro ⟨m1, e1, m2, e2, m3, hm, _, _⟩
  cases m1 <;> cases hm

/-- a disciplined trace: t1 writes under Lock, unlocks; t2 read-locks and reads -/
def demo : List Ev := [.acq 7 1, .acc 3 1 true, .rel 7 1, .racq 7 2, .acc 3 2 false, .rrel 7 2]

example : (runL 7 {} demo).isSome = true := by decide
example : runL 7 {} [Ev.acq 7 1, Ev.acq 7 2] = none := by decide          -- mutual exclusion rejects a second Lock
example : runL 7 {} [Ev.racq 7 1, Ev.racq 7 2, Ev.acq 7 3] = none := by decide
/-- the discipline check rejects an unlocked write, an unknown row, and a field without rows -/
example : tableOK [("T", "f", "lock:mu")] [("T", "f", "T.m", "w", "locked", ["mu"])] = true := by decide +kernel
example : tableOK [("T", "f", "lock:mu")] [("T", "f", "T.m", "w", "locked", ["mu"]), ("T", "f", "T.g", "w", "locked", [])] = false := by
  decide +kernel
example : tableOK [("T", "f", "lock:mu")] [("T", "f", "T.m", "cw", "locked", ["R:mu"])] = false := by decide +kernel
example : tableOK [("T", "f", "lock:mu")] [("T", "f", "T.m", "cr", "locked", ["R:mu"])] = true := by decide +kernel
example : tableOK [("T", "f", "lock:mu")] [("?", "f", "g", "r", "unknown", [])] = false := by decide +kernel
example : tableOK [("T", "f", "lock:mu")] [] = false := by decide +kernel
example : tableOK [("T", "n", "atomic")] [("T", "n", "T.m", "r", "locked", ["mu"])] = false := by decide +kernel

end Fh.Props.C37

/-! ### what the theorems of this file rest on -/
#print axioms Fh.Props.C37.lockset_orders_conflicts
#print axioms Fh.Props.C37.no_race_partial
#print axioms Fh.Props.C37.table_obeys_discipline
#print axioms Fh.Props.C37.handover_respected
#print axioms Fh.Props.C37.table_nonempty
#print axioms Fh.Props.C37.C37_full_counterexample
