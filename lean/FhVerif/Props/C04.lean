/-
C04 — Client calls return their own response, never another request's bytes.

Pooled connections (Client / HostClient): `pool_conn_is_clean` is the invariant — for ARBITRARY sequences of calls
(any choice of idle connection = LIFO, FIFO or any interleaving of concurrent callers, each of which owns its
connection exclusively by C18 `no_double_lend`), any mix of keep-alive/close, HEAD, buffered and streamed bodies closed
after k bytes with or without error, responses that arrive completely, are cut by the server or stall past the read
deadline: a connection in the pool has no unread byte of an earlier response.  Hence `response_is_own`.
Pipelined connections (PipelineClient): `pipeline_fifo` (the i-th response read is delivered to the i-th request
written, also when earlier calls timed out) and `pipeline_stream_own` (reading the stream of responses in order
yields for each request exactly its own response, HEAD included).

Both repaired defects are kept as counterexample theorems about the old decisions (`requireDrained = false`,
`headSkips = false`).  A third repaired defect (HostClient left `SkipBody` set on the caller's Response after a HEAD
request, so the next non-HEAD call done with the same Response skipped its body and pooled the connection with the
body unread) is outside the model's vocabulary — the model skips a body exactly for HEAD requests, which is what the
repaired code does — and is tied by the harness (calls that reuse one Response).

Assumptions (recorded, not axioms): the response head parser is a parameter (`Framing.parseHead`) and the server is
well-behaved per request (`wfResp`: a head the parser recognises whatever follows, then exactly the declared body, no
body for HEAD, no unsolicited bytes).  That fasthttp's ResponseHeader.Read / ReadBody consume exactly the framed
length is C08/C09's subject; here it is tied by the differential harness.
Residue: real timeouts/scheduler, TLS, retries after connection errors are separate round trips of this model.
-/
import FhVerif.Proofs.ClientConn
import FhVerif.Props.C38
import FhVerif.Gen.PoolShape

namespace Fh.Props.C04
open Fh Fh.Model.CC Fh.Proofs.ClientConn

/-- the repaired tree -/
def fixedCfg (maxBody : Nat) : Cfg := ⟨maxBody, true, true⟩

/-- Invariant: every connection in the pool has no unread bytes belonging to an earlier response. -/
theorem pool_conn_is_clean (F : Framing) (maxBody : Nat) (evs : List Event) (s : State)
    (hwf : ∀ e ∈ evs, wfEvent F e) (h : run F (fixedCfg maxBody) init evs = some s) :
    ∀ c ∈ s.pool, c.wire = [] :=
  (run_pinv rfl hwf pinv_init h).clean

def C04_full (F : Framing) (cfg : Cfg) : Prop :=
  ∀ (evs : List Event) (s : State), (∀ e ∈ evs, wfEvent F e) → run F cfg init evs = some s →
    ∀ l ∈ s.log, ∀ hd body, l.out = .ok hd body → hd ++ body <+: l.resp

/-- Every successful call returns bytes of the response the server produced for that call's own request: the head
    parsed and the body bytes delivered are a prefix of it (all of it unless the body was streamed and closed early),
    never a byte of another response. -/
theorem response_is_own (F : Framing) (maxBody : Nat) : C04_full F (fixedCfg maxBody) :=
  fun _ _ hwf h => (run_pinv rfl hwf pinv_init h).own

/-- a buffered (non-streamed) successful call returns the complete response, on a connection from the pool or new -/
theorem response_is_own_complete (F : Framing) (maxBody : Nat) (evs : List Event) (s : State) (e : Event)
    (hwf : ∀ e ∈ evs, wfEvent F e) (hwe : wfEvent F e) (h : run F (fixedCfg maxBody) init evs = some s)
    (c : Conn) (hc : c ∈ s.pool) (hns : e.call.stream = false) (hd body : Bytes)
    (hout : (roundTrip F (fixedCfg maxBody) c.wire e.call e.resp e.arrive e.later).out = .ok hd body) :
    hd ++ body = e.resp := by
  rw [pool_conn_is_clean F maxBody evs s hwf h c hc] at hout
  exact ((rt_clean F (fixedCfg maxBody) rfl e.call e.resp e.arrive e.later hwe).2 hd body hout).2 hns

/-- i-th response delivered to i-th written request on a pipelined connection (any interleaving of callers, timers,
    writer, reader, failures and restarts; shared with C38) -/
theorem pipeline_fifo (m : Nat) (evs : List Model.PL.Event) (s : Model.PL.State)
    (h : Model.PL.run (Model.PL.init m) evs = some s) :
    (∃ rest, s.wire = s.answered ++ rest) ∧ ∀ (k w : Nat), s.answered[k]? = some w → s.wire[k]? = some w :=
  C38.fifo_matching m evs s h

/-- … and what the reader parses for the i-th item is exactly the i-th response the server sent -/
theorem pipeline_stream_own (F : Framing) (maxBody : Nat) (rs : List (Bool × Bytes)) (extra : Bytes)
    (hwf : ∀ r ∈ rs, wfResp F r.1 r.2) :
    ownAll (readAll F (fixedCfg maxBody) (streamOf rs ++ extra) (rs.map (·.1))) rs :=
  readAll_own F (fixedCfg maxBody) rfl rs extra hwf

/-! ### the writer and the reader of client.go have the shape the model assumes

`pipeline_fifo` needs the same three facts about the control skeletons of writer, reader and worker as C38's
`fifo_matching`; why is told there. -/

/-- between `w.req.Write(bw)` and the first `chR <- w` the writer can only fail and return: what was written is queued -/
theorem writer_written_implies_queued :
    Gen.pipeShape_writer_writeToPush =
      ["for true | if err = w.req.Write(bw); err != nil => send w.done",
       "for true | if err = w.req.Write(bw); err != nil => return",
       "for true => label againChR"] ∧
    Gen.pipeShape_writer_actionsAfterWrite =
      ["send w.done", "return", "label againChR", "select-send chR", "select-send chR", "send w.done", "return",
       "bw.Flush", "send w.done", "return", "goto againChR"] := C38.writer_written_implies_queued

/-- a failed `w.resp.Read` answers the item and ends the reader -/
theorem reader_stops_after_failed_read :
    Gen.pipeShape_reader_afterRead =
      ["for true | if err != nil => send w.done", "for true | if err != nil => return", "for true => send w.done"] :=
  C38.reader_stops_after_failed_read

/-- `worker` fails the items left in chR only after joining BOTH writer and reader; the reader takes an item out of chR
    only to read its response -/
theorem chR_drained_after_both_stopped :
    Gen.pipeJoins_worker =
      ["recv doneW", "case err = <-doneW => conn.Close", "case err = <-doneW => close stopR", "case err = <-doneW => recv doneR",
       "recv doneR", "case err = <-doneR => conn.Close", "case err = <-doneR => close stopW", "case err = <-doneR => recv doneW",
       "for len(chs.chR) > 0 => recv chs.chR", "for len(chs.chR) > 0 => send w.done"] ∧
    Gen.pipeJoins_reader = ["for true => recv chR", "for true | default => recv chR"] := C38.chR_drained_after_both_stopped

/-- transport.RoundTrip: after AcquireConn every way out passes through exactly one of CloseConn / ReleaseConn, or hands
    the connection to the close callback of the streamed body (which does one of the two): no exit leaks the
    connection's slot, and every error exit (write deadline, request write / flush error, read deadline, response read
    error incl. ErrBodyTooLarge) CLOSES the connection — a connection on which a request or a response was cut short is
    never pooled. -/
theorem roundTrip_exits_close_or_release : Gen.rtShape_RoundTrip =
    ["AcquireConn", "if err != nil | return",
     "if err != nil | CloseConn", "if err != nil | return",
     "if err != nil | CloseConn", "if err != nil | return",
     "if err != nil | CloseConn", "if err != nil | return",
     "if err != nil | CloseConn", "if err != nil | return",
     "if customStreamBody && resp.bodyStream != nil | stream close callback installed",
     "if customStreamBody && resp.bodyStream != nil | return",
     "if closeConn | CloseConn", "else of closeConn | ReleaseConn", "return"] := rfl

/-- A streamed body can also be dropped without CloseBodyStream: by ReleaseResponse, by resp.Reset(), or by using the
    same Response for the next Do (which resets it).  For the pool that is the same event as an early close after
    `readK` bytes (`Call.readK`), and the release-vs-close decision must be taken from the framing the body was read
    with: `Response.Reset` drops the body stream (resetSkipHeader → ResetBody → closeBodyStream, i.e. the close
    callback with requestStream.unread()) BEFORE it resets the header that carries Content-Length / chunked. -/
theorem response_reset_drops_stream_before_header :
    Gen.respShape_Reset = ["ReleaseBody", "resetSkipHeader", "Header.Reset"] := rfl

/-! ### the toy framing is a framing (non-vacuity of `wfResp`) -/

theorem toy_wf (t hi lo c : UInt8) (body : Bytes) (isHead : Bool)
    (hb : if isHead then body = [] else body.length = hi.toNat * 256 + lo.toNat) :
    wfResp toy isHead ([t, hi, lo, c] ++ body) := by
  refine ⟨4, hi.toNat * 256 + lo.toNat, c != 0, ?_, ?_, ?_⟩
  · cases isHead
    · simp only [Bool.false_eq_true, if_false] at hb ⊢; simp [hb]; omega
    · simp only [if_true] at hb ⊢; subst hb; simp
  · intro st hpre
    simp only [List.cons_append, List.nil_append, List.take_succ_cons, List.take_zero] at hpre
    rcases hpre with ⟨tl, rfl⟩
    simp [toy, toyParse]
  · intro n hn
    have : n = 0 ∨ n = 1 ∨ n = 2 ∨ n = 3 := by omega
    rcases this with rfl | rfl | rfl | rfl <;> simp [toy, toyParse]

/-! ### the two repaired defects, as counterexamples about the old decisions -/

/-- request 1: streamed 8-byte body (MaxResponseBodySize 2), the caller reads 1 byte and closes the stream without
    error; request 2 reuses the connection -/
def earlyCloseRun : List Event :=
  [⟨1, none, ⟨false, false, true, 1, 0, false, false⟩, [1, 0, 8, 0, 0xAA, 9, 0, 0, 0, 7, 7, 7], 12, false⟩,
   ⟨2, some 0, ⟨false, false, false, 0, 0, false, false⟩, [2, 0, 0, 0], 4, false⟩]

theorem earlyCloseRun_wf : ∀ e ∈ earlyCloseRun, wfEvent toy e := by
  intro e he
  simp only [earlyCloseRun, List.mem_cons, List.not_mem_nil, or_false] at he
  rcases he with rfl | rfl
  · exact toy_wf 1 0 8 0 [0xAA, 9, 0, 0, 0, 7, 7, 7] false (by decide)
  · exact toy_wf 2 0 0 0 [] false (by decide)

/-- Before the repair (`requireDrained = false`) the early-closed stream went back to the pool with 7 unread body
    bytes, and the next call was answered with the response `[9,0,0,0]` found inside them. -/
theorem early_close_counterexample : ¬ C04_full toy ⟨2, false, true⟩ := by
  intro h
  have hrun : run toy ⟨2, false, true⟩ init earlyCloseRun =
      some ⟨[⟨0, [7, 7, 7, 2, 0, 0, 0]⟩], 1, [⟨1, [1, 0, 8, 0, 0xAA, 9, 0, 0, 0, 7, 7, 7], .ok [1, 0, 8, 0] [0xAA]⟩,
                                   ⟨2, [2, 0, 0, 0], .ok [9, 0, 0, 0] []⟩]⟩ := by decide +kernel
  have := h earlyCloseRun _ earlyCloseRun_wf hrun ⟨2, [2, 0, 0, 0], .ok [9, 0, 0, 0] []⟩ (by simp) [9, 0, 0, 0] [] rfl
  rw [List.prefix_iff_eq_take] at this
  revert this; decide

/-- the same run on the repaired tree: the connection is closed, request 2 dials and gets its own response -/
example : (run toy (fixedCfg 2) init [earlyCloseRun[0], { earlyCloseRun[1] with pick := none }]).map (fun s => (s.pool, s.log.map (·.out))) =
    some ([⟨1, []⟩], [.ok [1, 0, 8, 0] [0xAA], .ok [2, 0, 0, 0] []]) := by decide +kernel

/-- Before the repair (`headSkips = false`) the pipeline reader read a body after the response to a HEAD request:
    the HEAD call was answered with 4 bytes of the next response, and the next call failed. -/
theorem pipeline_head_counterexample :
    readAll toy ⟨0, true, false⟩ (streamOf [(true, [1, 0, 4, 0]), (false, [2, 0, 1, 0, 5])]) [true, false] =
      [.ok [1, 0, 4, 0] [2, 0, 1, 0], .err] := by decide +kernel

example : readAll toy (fixedCfg 0) (streamOf [(true, [1, 0, 4, 0]), (false, [2, 0, 1, 0, 5])]) [true, false] =
    [.ok [1, 0, 4, 0] [], .ok [2, 0, 1, 0] [5]] := by decide +kernel

/-! ### non-vacuity of the invariant: a reachable pool with a reused clean connection -/

example : (run toy (fixedCfg 0) init
    [⟨1, none, ⟨false, false, false, 0, 0, false, false⟩, toyResp 1 3 false false, 7, false⟩,
     ⟨2, some 0, ⟨true, false, false, 0, 0, false, false⟩, toyResp 2 3 false true, 4, false⟩,
     ⟨3, some 0, ⟨false, false, false, 0, 0, false, false⟩, toyResp 3 2 true false, 6, false⟩]).map (fun s => (s.pool, s.log.map (·.out))) =
    some ([], [.ok [1, 0, 3, 0] [7, 8, 9], .ok [2, 0, 3, 0] [], .ok [3, 0, 2, 1] [21, 22]]) := by decide +kernel

/-- a response cut by the server inside the body: error, connection closed, nothing pooled -/
example : (run toy (fixedCfg 0) init
    [⟨1, none, ⟨false, false, false, 0, 0, false, false⟩, toyResp 1 3 false false, 5, false⟩]).map (fun s => (s.pool, s.log.map (·.out))) =
    some ([], [.err]) := by decide +kernel

end Fh.Props.C04

/-! ### what the theorems of this file rest on -/
#print axioms Fh.Props.C04.pool_conn_is_clean
#print axioms Fh.Props.C04.response_is_own
#print axioms Fh.Props.C04.response_is_own_complete
#print axioms Fh.Props.C04.pipeline_fifo
#print axioms Fh.Props.C04.pipeline_stream_own
#print axioms Fh.Props.C04.writer_written_implies_queued
#print axioms Fh.Props.C04.reader_stops_after_failed_read
#print axioms Fh.Props.C04.chR_drained_after_both_stopped
#print axioms Fh.Props.C04.roundTrip_exits_close_or_release
#print axioms Fh.Props.C04.response_reset_drops_stream_before_header
#print axioms Fh.Props.C04.toy_wf
#print axioms Fh.Props.C04.earlyCloseRun_wf
#print axioms Fh.Props.C04.early_close_counterexample
#print axioms Fh.Props.C04.pipeline_head_counterexample
