/-
C15 — Shutdown is graceful.
Model: Model/Shutdown.lean.
-/
import FhVerif.Model.Shutdown
import FhVerif.Gen.Facts
import FhVerif.Base.Run

namespace Fh.Props.C15
open Fh Fh.Model

def cnt (f : ConnPhase → Bool) (l : List ConnPhase) : Nat := (l.filter f).length
def ind (f : ConnPhase → Bool) (p : ConnPhase) : Nat := if f p then 1 else 0

/-- a handler was started and its response is not written out yet -/
def hw (p : ConnPhase) : Bool := p == .inHandler || p == .writing || p == .buffered

theorem cnt_cons (f : ConnPhase → Bool) (x : ConnPhase) (l : List ConnPhase) : cnt f (x :: l) = ind f x + cnt f l := by
  cases h : f x <;> simp [cnt, ind, h, Nat.add_comm]

theorem cnt_set (f : ConnPhase → Bool) (l : List ConnPhase) (i : Nat) (p q : ConnPhase) (h : l[i]? = some p) :
    cnt f (l.set i q) + ind f p = cnt f l + ind f q := by
  induction l generalizing i with
  | nil => cases h
  | cons x xs ih =>
    cases i with
    | zero => cases h; rw [List.set_cons_zero, cnt_cons, cnt_cons]; omega
    | succ i => rw [List.set_cons_succ, cnt_cons, cnt_cons, Nat.add_assoc, ih i h]; omega

theorem cnt_append (f : ConnPhase → Bool) (l m : List ConnPhase) : cnt f (l ++ m) = cnt f l + cnt f m := by
  rw [cnt, List.filter_append, List.length_append]; rfl

theorem cnt_map (f : ConnPhase → Bool) (m : ConnPhase → ConnPhase) (l : List ConnPhase) :
    cnt f (l.map m) = cnt (f ∘ m) l := by
  rw [cnt, List.filter_map, List.length_map]; rfl

theorem cnt_add (f g f' : ConnPhase → Bool) (hp : ∀ p, ind f p + ind g p = ind f' p) (l : List ConnPhase) :
    cnt f l + cnt g l = cnt f' l := by
  induction l with
  | nil => rfl
  | cons x xs ih => rw [cnt_cons, cnt_cons, cnt_cons, ← ih, ← hp x]; omega

/-- the gauge is exact: open = (Serve still running) + connections whose loop has not ended;
    handlers in flight (`cnt hw`, spelt out) are accounted for; a nil return is only ever recorded with open = 0 -/
structure SDInv (s : SDState) : Prop where
  gauge : s.open_ = (if s.serveRunning then 1 else 0) + live s.conns
  listener : s.stop = true → s.listenerOpen = false
  doneCh : s.stop = true → s.doneClosed = true
  answered_le : s.answered + (s.conns.filter (fun p => p == .inHandler || p == .writing || p == .buffered)).length = s.started
  nil_ok : s.returnedNil = true → s.open_ = 0 ∧ s.stop = true

theorem sd_init : SDInv {} := ⟨rfl, nofun, nofun, rfl, nofun⟩

/-- connection `i` moves from a live phase `p` to `q`, with `da` more responses written and `ds` more handlers
    started: the gauge drops by one iff `q = done`, and the handlers in flight (`hw`) stay accounted for.
    No nil return can have been recorded: the gauge counts connection `i`. -/
theorem move_inv {s : SDState} (h : SDInv s) {i : Nat} {p : ConnPhase} (q : ConnPhase) (hc : s.conns[i]? = some p)
    (hp : p ≠ .done) (da ds : Nat) (hbal : da + ind hw q = ind hw p + ds) :
    SDInv { s with conns := setPhase s.conns i q, open_ := s.open_ + ind (· != .done) q - 1,
                   answered := s.answered + da, started := s.started + ds } := by
  have c0 := cnt_set (· != .done) s.conns i p .done hc
  have c1 := cnt_set (· != .done) s.conns i p q hc
  have c2 := cnt_set hw s.conns i p q hc
  have hg : s.open_ = (if s.serveRunning then 1 else 0) + cnt (· != .done) s.conns := h.gauge
  have hl : ind (· != .done) p = 1 := by cases p <;> first | rfl | exact absurd rfl hp
  rw [hl] at c0 c1
  have hpos : s.open_ ≠ 0 := by rw [hg, ← show _ + 1 = cnt (· != .done) s.conns from c0]; exact Nat.succ_ne_zero _
  refine ⟨?_, h.listener, h.doneCh, ?_, fun hn => absurd (h.nil_ok hn).1 hpos⟩
  · show s.open_ + ind (· != .done) q - 1 = (if s.serveRunning then 1 else 0) + cnt (· != .done) (s.conns.set i q)
    rw [hg, Nat.add_assoc, ← c1]; rfl
  · show s.answered + da + cnt hw (s.conns.set i q) = s.started + ds
    have : s.answered + cnt hw s.conns = s.started := h.answered_le
    omega

theorem sdStep_inv (s s' : SDState) (e : SDEvent) (h : SDInv s) (hs : sdStep s e = some s') : SDInv s' := by
  have hg : s.open_ = (if s.serveRunning then 1 else 0) + cnt (· != .done) s.conns := h.gauge
  cases e with
  | accept =>
    obtain ⟨hc, rfl⟩ := of_guard hs
    refine ⟨?_, h.listener, h.doneCh, ?_, fun hn => ?_⟩
    · show s.open_ + 1 = (if s.serveRunning then 1 else 0) + cnt (· != .done) (s.conns ++ [.idle])
      rw [hg, cnt_append]; rfl
    · show _ + cnt hw (s.conns ++ [.idle]) = _
      rw [cnt_append]; exact h.answered_le
    · rw [h.listener (h.nil_ok hn).2] at hc; cases hc
  | firstByte i =>
    obtain ⟨hc, rfl⟩ := of_guard hs
    exact move_inv h .reading hc nofun 0 0 rfl
  | headerDone i =>
    obtain ⟨hc, rfl⟩ := of_guard hs
    exact move_inv h .inHandler hc nofun 0 1 rfl
  | handlerReturn i =>
    obtain ⟨hc, rfl⟩ := of_guard hs
    exact move_inv h .writing hc nofun 0 0 rfl
  | responseWritten i =>
    obtain ⟨hc, hs⟩ := Option.ite_none_right_eq_some.1 hs
    split at hs
    · cases hs; exact move_inv h .done hc nofun 1 0 rfl
    · cases hs; exact move_inv h .idle hc nofun 1 0 rfl
  | responseBuffered i =>
    obtain ⟨hc, rfl⟩ := of_guard hs
    exact move_inv h .buffered hc nofun 0 0 rfl
  | bufferedNext i =>
    obtain ⟨hc, hs⟩ := Option.ite_none_right_eq_some.1 hs
    split at hs
    · cases hs; exact move_inv h .done hc nofun 1 0 rfl
    · cases hs; exact move_inv h .reading hc nofun 1 0 rfl
  | connError i =>
    obtain ⟨hc, rfl⟩ := of_guard hs
    exact move_inv h .done hc nofun 0 0 rfl
  | shutdownBegin =>
    cases hs
    exact ⟨h.gauge, fun _ => rfl, fun _ => rfl, h.answered_le, fun hn => ⟨(h.nil_ok hn).1, rfl⟩⟩
  | closeIdleTick =>
    obtain ⟨_, rfl⟩ := of_guard hs
    -- `closeIdle` turns exactly the idle phases into `done`
    have c1 := cnt_add ((· != .done) ∘ closeIdle) (· == .idle) (· != .done) (fun p => by cases p <;> rfl) s.conns
    have c2 : hw ∘ closeIdle = hw := funext fun p => by cases p <;> rfl
    refine ⟨?_, h.listener, h.doneCh, ?_, fun hn => ?_⟩
    · show s.open_ - cnt (· == .idle) s.conns = (if s.serveRunning then 1 else 0) + cnt (· != .done) (s.conns.map closeIdle)
      rw [hg, cnt_map, ← c1, ← Nat.add_assoc, Nat.add_sub_cancel]
    · show s.answered + cnt hw (s.conns.map closeIdle) = s.started
      rw [cnt_map, c2]; exact h.answered_le
    · have := h.nil_ok hn; exact ⟨by show s.open_ - _ = 0; rw [this.1, Nat.zero_sub], this.2⟩
  | serveReturn =>
    obtain ⟨hc, rfl⟩ := of_guard hs
    rw [Bool.and_eq_true] at hc
    refine ⟨?_, h.listener, h.doneCh, h.answered_le, fun hn => ?_⟩
    · show s.open_ - 1 = (if false then 1 else 0) + cnt (· != .done) s.conns
      rw [hg, hc.1, if_pos rfl, if_neg Bool.false_ne_true, Nat.add_comm 1, Nat.add_sub_cancel, Nat.zero_add]
    · have := h.nil_ok hn; exact ⟨by show s.open_ - 1 = 0; rw [this.1], this.2⟩
  | shutdownPoll =>
    rcases of_ite hs with ⟨hc, hs⟩ | ⟨_, hs⟩
    · cases hs
      simp only [Bool.and_eq_true, decide_eq_true_eq] at hc
      exact ⟨h.gauge, h.listener, h.doneCh, h.answered_le, fun _ => ⟨hc.2, hc.1⟩⟩
    · obtain ⟨_, rfl⟩ := of_guard hs
      exact h

theorem sdRun_eq_iter (s : SDState) (es : List SDEvent) : sdRun s es = iter sdStep s es := by
  induction es generalizing s with
  | nil => rfl
  | cons e es ih => rw [sdRun, Iter.iter_cons]; cases sdStep s e <;> simp [ih]

theorem sdRun_inv (es : List SDEvent) (s s' : SDState) (h : SDInv s) (hr : sdRun s es = some s') : SDInv s' :=
  Iter.inv (fun s e s' => sdStep_inv s s' e) h (sdRun_eq_iter s es ▸ hr)

/-- C15: in every execution, once Shutdown has returned nil: every listener is closed, Serve has returned, no connection
    is inside a handler or writing (every connection's loop has ended), every handler that started had its response
    written, and the Done channel is closed. -/
theorem nil_implies_quiescent (es : List SDEvent) (s : SDState) (hr : sdRun {} es = some s) (hnil : s.returnedNil = true) :
    s.listenerOpen = false ∧ s.serveRunning = false ∧ (∀ p ∈ s.conns, p = .done) ∧ s.answered = s.started ∧ s.doneClosed = true := by
  have h := sdRun_inv es {} s sd_init hr
  obtain ⟨hopen, hstop⟩ := h.nil_ok hnil
  -- the gauge reads 0: Serve has returned and no connection is live
  obtain ⟨hserve, hlive⟩ := Nat.eq_zero_of_add_eq_zero (hopen ▸ h.gauge).symm
  have hall : ∀ p ∈ s.conns, p = .done := fun p hp => by
    simpa using List.filter_eq_nil_iff.1 (List.length_eq_zero_iff.1 hlive) p hp
  have hhw : cnt hw s.conns = 0 :=
    List.length_eq_zero_iff.2 (List.filter_eq_nil_iff.2 fun p hp => by rw [hall p hp]; decide)
  refine ⟨h.listener hstop, ?_, hall, ?_, h.doneCh hstop⟩
  · cases hs : s.serveRunning with
    | false => rfl
    | true => rw [hs] at hserve; cases hserve
  · have ha : s.answered + cnt hw s.conns = s.started := h.answered_le
    rwa [hhw] at ha

theorem done_closed_at_begin (s : SDState) : ∀ s', sdStep s .shutdownBegin = some s' → s'.doneClosed = true ∧ s'.listenerOpen = false ∧ s'.stop = true := by
  intro s' h; cases h; exact ⟨rfl, rfl, rfl⟩

theorem idle_closed_not_awaited (s s' : SDState) (h : sdStep s .closeIdleTick = some s') : ∀ p ∈ s'.conns, p ≠ .idle := by
  obtain ⟨_, rfl⟩ := of_guard h
  intro p hp
  obtain ⟨q, _, rfl⟩ := List.mem_map.1 hp
  unfold closeIdle; split <;> simp_all

/-- a connection whose response still sits in the write buffer (further pipelined requests were already read) is not
    an idle connection: the tick that closes idle connections leaves it alone, so its response is still flushed -/
theorem buffered_not_closed_by_idle_tick (s s' : SDState) (h : sdStep s .closeIdleTick = some s') (i : Nat)
    (hb : s.conns[i]? = some .buffered) : s'.conns[i]? = some .buffered := by
  obtain ⟨_, rfl⟩ := of_guard h
  show (s.conns.map closeIdle)[i]? = _
  rw [List.getElem?_map, hb]; rfl

/-- regenerated from /repo: the serve loop stamps the connection as idle only under `br == nil || br.Buffered() == 0`,
    i.e. never in the model's `buffered` phase (the repaired defect b7ee3f4 was an unconditional stamp) -/
theorem idle_stamp_only_when_nothing_buffered :
    Gen.idleStampGuards = ["br == nil || br.Buffered() == 0"] := rfl

/-! non-vacuity: a handler in flight while Shutdown begins; nil only after its response is written -/
example : (sdRun {} [.accept, .firstByte 0, .headerDone 0, .shutdownBegin, .serveReturn, .shutdownPoll, .handlerReturn 0,
    .responseWritten 0, .shutdownPoll]).map (fun s => (s.returnedNil, s.answered, s.open_)) = some (true, 1, 0) := by decide
example : (sdRun {} [.accept, .firstByte 0, .headerDone 0, .shutdownBegin, .serveReturn, .shutdownPoll]).map
    (fun s => s.returnedNil) = some false := by decide
-- pipelined: a response buffered when Shutdown begins survives the idle tick and is flushed before nil
example : (sdRun {} [.accept, .firstByte 0, .headerDone 0, .handlerReturn 0, .responseBuffered 0, .shutdownBegin, .closeIdleTick,
    .serveReturn, .shutdownPoll, .bufferedNext 0, .shutdownPoll]).map (fun s => (s.returnedNil, s.answered, s.started, s.open_)) =
    some (true, 1, 1, 0) := by decide

end Fh.Props.C15

/-! ### what the theorems of this file rest on -/
#print axioms Fh.Props.C15.cnt_cons
#print axioms Fh.Props.C15.cnt_set
#print axioms Fh.Props.C15.cnt_append
#print axioms Fh.Props.C15.cnt_map
#print axioms Fh.Props.C15.cnt_add
#print axioms Fh.Props.C15.sd_init
#print axioms Fh.Props.C15.move_inv
#print axioms Fh.Props.C15.sdStep_inv
#print axioms Fh.Props.C15.sdRun_eq_iter
#print axioms Fh.Props.C15.sdRun_inv
#print axioms Fh.Props.C15.nil_implies_quiescent
#print axioms Fh.Props.C15.done_closed_at_begin
#print axioms Fh.Props.C15.idle_closed_not_awaited
#print axioms Fh.Props.C15.buffered_not_closed_by_idle_tick
#print axioms Fh.Props.C15.idle_stamp_only_when_nothing_buffered
