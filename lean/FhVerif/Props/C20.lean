/-
C20 — Redirects never leak credentials to other hosts.

The redirect loop (Model.runLoop, mirroring client.go doRequestFollowRedirects) is parameterised by the URL machinery
(`Engine`: Request.parseURI, getRedirectURL); every theorem below holds for every engine, every script of c.Do results
and every initial request.  The one fact about URLs that is used — URI.String never prints userinfo, so a redirected
request gets no Authorization header from its URL — is the hypothesis `NoUserinfoAfterRedirect`; it is proved for the
concrete engine Model.Redir.urlEngine (`urlEngine_no_userinfo`).  That the host the trust decision looked at is the host
the next request is sent to is `judged_is_contacted` (concrete engine; hosts in its modelled domain: no bracketed IP
literals, no '%'), giving `creds_reach_only_trusted_hosts`.  Outside that domain (and for the real URI code as a whole)
the same fact is observed on every hop of every generated chain by the harness (fake multi-host network keyed by dial
address; kind "url" compares judged and contacted host directly).
-/
import FhVerif.Proofs.Redirect
import FhVerif.Proofs.RedirectURL
import FhVerif.Base.OfString

namespace Fh.Props.C20
open Fh Fh.Model Fh.Model.Redir Fh.Proofs.Redirect Fh.Proofs.RedirectURL

/-- the trust decision: credentials are kept only for the anchor host itself or a host ending in "." ++ anchor
    (ASCII case folded), the latter never for hosts containing ':' (IPv6 literals) or '%' (zones, escapes) -/
theorem trust_sound (anchor redirectHostPort : Bytes) (h : trusted anchor redirectHostPort = true) :
    foldEq (hostnameFromHostPort redirectHostPort) anchor = true ∨
    ∃ pre suf, hostnameFromHostPort redirectHostPort = pre ++ 46 :: suf ∧ foldEq suf anchor = true ∧
      (58 : UInt8) ∉ hostnameFromHostPort redirectHostPort ∧ (37 : UInt8) ∉ hostnameFromHostPort redirectHostPort :=
  (isDomainOrSubdomain_iff _ _).1 h

theorem trust_complete (anchor redirectHostPort : Bytes)
    (h : foldEq (hostnameFromHostPort redirectHostPort) anchor = true ∨
      ∃ pre suf, hostnameFromHostPort redirectHostPort = pre ++ 46 :: suf ∧ foldEq suf anchor = true ∧
        (58 : UInt8) ∉ hostnameFromHostPort redirectHostPort ∧ (37 : UInt8) ∉ hostnameFromHostPort redirectHostPort) :
    trusted anchor redirectHostPort = true :=
  (isDomainOrSubdomain_iff _ _).2 h

/-- ASCII case folding only: hosts of different byte length are never "equal" (no Unicode folding such as
    U+212A KELVIN SIGN ~ 'k') -/
theorem fold_same_length (a b : Bytes) (h : foldEq a b = true) : a.length = b.length := foldEq_length h

variable {U : Type}

/-- C20: in any chain, the request handed to c.Do at hop i carries a sensitive header only if the redirects of
    hops 1..i were all judged trusted w.r.t. the INITIAL host (the anchor never changes). -/
theorem creds_only_while_trusted (E : Engine U) (hU : NoUserinfoAfterRedirect E) (maxR : Int) (anchor : Bytes)
    (script : List (Option Resp)) (url0 : U) (req0 : RReq)
    (pre : List (Attempt U)) (a : Attempt U) (post : List (Attempt U))
    (h : (runLoop E maxR anchor script url0 req0 0 none).1 = pre ++ a :: post) (hc : Carries a.req) :
    ∀ b ∈ (pre ++ [a]).tail, TrustedVia anchor b := by
  intro b hb
  obtain ⟨p, q, hp, hpq, ha⟩ := mem_tail_concat hb
  have ht := runLoop_trace E maxR anchor script url0 req0 0 none
  rw [h, List.append_cons, hpq, List.append_assoc] at ht
  exact ht.creds_trusted hU hp ⟨a, List.mem_append_left post ha, hc⟩

/-- in particular the request that follows an untrusted redirect carries none of the sensitive names -/
theorem untrusted_hop_is_clean (E : Engine U) (maxR : Int) (anchor : Bytes)
    (script : List (Option Resp)) (url0 : U) (req0 : RReq)
    (pre : List (Attempt U)) (a b : Attempt U) (post : List (Attempt U))
    (h : (runLoop E maxR anchor script url0 req0 0 none).1 = pre ++ a :: b :: post)
    (s : Nat) (j : Bytes) (hv : b.via = some (s, j)) (hu : trusted anchor j = false) : ¬ Carries b.req := by
  rintro ⟨t, ht, hc⟩
  have := (h ▸ runLoop_trace E maxR anchor script url0 req0 0 none).step.untrusted_clean hv hu ht
  exact Bool.false_ne_true (this.symm.trans hc)

/-- C20: a sensitive name that is off the request at some hop (after the first, or with no userinfo on that hop's URL)
    is off at every later hop: nothing is re-added when the chain comes back to a trusted host. -/
theorem stripped_stay_stripped (E : Engine U) (hU : NoUserinfoAfterRedirect E) (maxR : Int) (anchor : Bytes)
    (script : List (Option Resp)) (url0 : U) (req0 : RReq)
    (pre : List (Attempt U)) (a : Attempt U) (post : List (Attempt U))
    (h : (runLoop E maxR anchor script url0 req0 0 none).1 = pre ++ a :: post)
    (t : Bytes) (ht : t ∈ sensitiveNames) (hoff : hasName a.req.names t = false) (hui : E.userinfo a.url = false) :
    ∀ b ∈ post, hasName b.req.names t = false := by
  obtain ⟨_, ha⟩ := (h ▸ runLoop_trace E maxR anchor script url0 req0 0 none).suffix (List.suffix_append pre _)
  exact fun b hb => ha.absent hU ht hoff hui b (List.mem_cons_of_mem _ hb)

/-- C20: at most maxRedirectsCount redirects are followed (at most maxRedirectsCount + 1 calls of c.Do) -/
theorem hops_le_max (E : Engine U) (maxR : Int) (anchor : Bytes) (script : List (Option Resp)) (url0 : U) (req0 : RReq) :
    (runLoop E maxR anchor script url0 req0 0 none).1.length ≤ maxR.toNat + 1 :=
  (runLoop_trace E maxR anchor script url0 req0 0 none).length_le

theorem framing_after_303 : ∀ t ∈ framingNames, ∀ ns : List Bytes, ∀ ui : Bool,
    hasName (if ui then setNameExact (delNames ns framingNames) authName else delNames ns framingNames) t = false := by
  intro t ht ns ui
  cases ui with
  | false => exact delNames_removes ns t ht
  | true =>
    refine Bool.eq_false_iff.mpr fun hc => ?_
    rcases hasName_setNameExact hc with h | h
    · rw [delNames_removes ns t ht] at h; cases h
    · rw [auth_not_framing t ht] at h; cases h

theorem after_303 (r : RReq) (ui : Bool) :
    ((methodRule r 303).method = methodGet ∨ (methodRule r 303).method = methodHead) ∧
    wireFraming (methodRule r 303) ui = ⟨false, false, false, false, false⟩ := by
  have hm : (methodRule r 303).method = methodGet ∨ (methodRule r 303).method = methodHead := by
    show (if r.method == methodGet || r.method == methodHead then r.method else methodGet) = _ ∨
      (if r.method == methodGet || r.method == methodHead then r.method else methodGet) = _
    split
    · rename_i hc
      simpa only [Bool.or_eq_true, beq_iff_eq] using hc
    · exact Or.inl rfl
  have hig : ignoreBody (methodRule r 303) = true := by
    unfold ignoreBody
    rcases hm with hm | hm <;> rw [hm] <;> decide +kernel
  refine ⟨hm, ?_⟩
  have key := fun t ht => framing_after_303 t ht r.names ui
  have e : afterWrite (methodRule r 303) ui = { methodRule r 303 with
      names := if ui then setNameExact (delNames r.names framingNames) authName else delNames r.names framingNames } := by
    show (if ignoreBody (methodRule r 303) = true then _ else _) = _
    rw [if_pos hig]; rfl
  unfold wireFraming
  rw [e]
  show Framing.mk false (hasName _ _ || false) (hasName _ _) (hasName _ _) false = _
  rw [key _ (by decide +kernel), key _ (by decide +kernel), key _ (by decide +kernel)]; rfl

/-- C20: the request that follows a 303 is a GET or HEAD without body and without Content-Length, Content-Type,
    Transfer-Encoding or Trailer on the wire -/
theorem see_other_is_bodyless_get_or_head (E : Engine U) (maxR : Int) (anchor : Bytes)
    (script : List (Option Resp)) (url0 : U) (req0 : RReq)
    (pre : List (Attempt U)) (a b : Attempt U) (post : List (Attempt U))
    (h : (runLoop E maxR anchor script url0 req0 0 none).1 = pre ++ a :: b :: post)
    (j : Bytes) (hv : b.via = some (303, j)) (ui : Bool) :
    (b.req.method = methodGet ∨ b.req.method = methodHead) ∧
    wireFraming b.req ui = ⟨false, false, false, false, false⟩ := by
  obtain ⟨st, loc, _, _, hvia, hreq⟩ := (h ▸ runLoop_trace E maxR anchor script url0 req0 0 none).step
  cases hvia.symm.trans hv
  rw [hreq]
  exact after_303 _ ui

theorem stripSensitive_method (r : RReq) (x y : Bytes) : (stripSensitive r x y).method = r.method := by
  unfold stripSensitive; split <;> rfl

theorem afterWrite_method (r : RReq) (u : Bool) : (afterWrite r u).method = r.method := by
  unfold afterWrite
  cases r.body with
  | chunkedStream => rfl
  | bytes => rfl
  | none => dsimp only; split <;> rfl

/-- C20: a POST answered by 301 or 302 is followed by a GET -/
theorem post_becomes_get_on_301_302 (E : Engine U) (maxR : Int) (anchor : Bytes)
    (script : List (Option Resp)) (url0 : U) (req0 : RReq)
    (pre : List (Attempt U)) (a b : Attempt U) (post : List (Attempt U))
    (h : (runLoop E maxR anchor script url0 req0 0 none).1 = pre ++ a :: b :: post)
    (hp : a.req.method = methodPost) (s : Nat) (j : Bytes) (hv : b.via = some (s, j)) (hs : s = 301 ∨ s = 302) :
    b.req.method = methodGet := by
  obtain ⟨st, loc, _, _, hvia, hreq⟩ := (h ▸ runLoop_trace E maxR anchor script url0 req0 0 none).step
  cases hvia.symm.trans hv
  rw [hreq, methodRule, if_neg (by rcases hs with rfl | rfl <;> decide), if_pos]
  rw [stripSensitive_method, afterWrite_method, hp]
  rcases hs with rfl | rfl <;> rfl

/-! ### the concrete URL engine (uri.go URI.parse / updateBytes / String as far as scheme and host go) -/

theorem resolve_str (u : UrlV) (loc : Bytes) : (urlEngine.resolve u loc).1.str =
    printed (getRedirect u loc).scheme (getRedirect u loc).host (getRedirect u loc).ctl := rfl

/-- URI.String never prints userinfo: the hypothesis of the loop theorems holds for the concrete engine -/
theorem urlEngine_no_userinfo : NoUserinfoAfterRedirect urlEngine := by
  intro u loc
  have := reparse (getRedirect u loc) (good_getRedirect u loc)
  rw [show ∀ v, urlEngine.userinfo v = match parseURL v.str with | .ok s => s.user | .fail _ => false from fun _ => rfl,
    resolve_str]
  generalize parseURL _ = r at this ⊢
  cases r with
  | ok p => exact this.1
  | fail _ => rfl

/-- the host the trust decision looked at is the host the next request is sent to (whenever the resolved URL parses
    and its host is in the modelled domain: not an IP literal in brackets, no '%') -/
theorem judged_is_contacted (u : UrlV) (loc : Bytes) (hk : (getRedirect u loc).unk = false)
    (sch h : Bytes) (hc : contacted (urlEngine.resolve u loc).1 = some (sch, h)) : h = (urlEngine.resolve u loc).2 := by
  have := reparse (getRedirect u loc) (good_getRedirect u loc)
  rw [contacted, resolve_str] at hc
  generalize parseURL _ = r at this hc
  cases r with
  | ok p => cases hc; exact this.2 hk
  | fail _ => cases hc

/-- C20 end to end on the concrete engine: a redirected request that still carries a sensitive header is sent to a host
    the trust decision accepted for the INITIAL host - i.e. (trust_sound) the initial host itself or a dot-suffix
    subdomain of it. -/
theorem creds_reach_only_trusted_hosts (maxR : Int) (anchor : Bytes) (script : List (Option Resp)) (url0 : UrlV) (req0 : RReq)
    (pre : List (Attempt UrlV)) (a : Attempt UrlV) (post : List (Attempt UrlV))
    (h : (runLoop urlEngine maxR anchor script url0 req0 0 none).1 = pre ++ a :: post) (hne : pre ≠ [])
    (hc : Carries a.req) (hk : a.url.unk = false) (sch host : Bytes) (hcon : contacted a.url = some (sch, host)) :
    trusted anchor host = true := by
  have htr := h ▸ runLoop_trace urlEngine maxR anchor script url0 req0 0 none
  obtain ⟨s, j, hv, ht⟩ := htr.creds_trusted urlEngine_no_userinfo hne ⟨a, List.mem_cons_self, hc⟩
  obtain ⟨pre', b, rfl⟩ : ∃ pre' b, pre = pre' ++ [b] := ⟨_, _, (List.dropLast_concat_getLast hne).symm⟩
  rw [List.append_assoc] at htr
  obtain ⟨st, loc, _, hurl, hvia, _⟩ : Hop urlEngine anchor b a := htr.step
  cases hvia.symm.trans hv
  rw [hurl] at hk hcon
  rw [judged_is_contacted b.url loc (Bool.or_eq_false_iff.mp hk).1 sch host hcon]
  exact ht

/-! ### non-vacuity -/

/-- a scripted engine: URLs are host names, a Location is the next host name -/
def toyEngine : Engine Bytes := ⟨fun _ => true, fun _ => false, fun _ loc => (loc, loc)⟩

theorem toy_no_userinfo : NoUserinfoAfterRedirect toyEngine := fun _ _ => rfl

def good : Bytes := ofString "good.com"
def toyReq : RReq := ⟨methodPost, [Gen.cHeaderAuthorization, Gen.cHeaderCookie, ofString "X-Other"], .bytes, false⟩

/-- good.com -(302)-> api.good.com -(303)-> evil.com -(307)-> good.com -(200) -/
def toyScript : List (Option Resp) :=
  [some ⟨302, ofString "api.good.com"⟩, some ⟨303, ofString "evil.com"⟩, some ⟨307, good⟩, some ⟨200, []⟩]

example : ((runLoop toyEngine 16 good toyScript good toyReq 0 none).1.map fun a => (a.req.method, a.req.names, a.req.body)) =
    [(methodPost, [Gen.cHeaderAuthorization, Gen.cHeaderCookie, ofString "X-Other"], .bytes),
     (methodGet, [Gen.cHeaderAuthorization, Gen.cHeaderCookie, ofString "X-Other"], .bytes),
     (methodGet, [ofString "X-Other"], .none),
     (methodGet, [ofString "X-Other"], .none)] := by
  simp only [ofString_eq]
  decide +kernel
example : (runLoop toyEngine 16 good toyScript good toyReq 0 none).2 = .done 200 := by decide +kernel
example : (runLoop toyEngine 2 good toyScript good toyReq 0 none).2 = .tooMany := by decide +kernel
example : (runLoop toyEngine 2 good toyScript good toyReq 0 none).1.length = 3 := by decide +kernel
example : trusted good (ofString "API.Good.com:8443") = true := by
  simp only [ofString_eq]
  decide +kernel
example : trusted good (ofString "evilgood.com") = false := by
  simp only [ofString_eq]
  decide +kernel
example : trusted good (ofString "good.com.evil.com") = false := by
  simp only [ofString_eq]
  decide +kernel
example : trusted (ofString "::1") (ofString "[::1]:8080") = true := by
  simp only [ofString_eq]
  decide +kernel
example : trusted (ofString "1") (ofString "[fe80::.1]") = false := by
  simp only [ofString_eq]
  decide +kernel
example : trusted (ofString "k.com") [0xe2, 0x84, 0xaa, 46, 99, 111, 109] = false := by
  simp only [ofString_eq]
  decide +kernel
example : hostnameFromURLString (ofString "https://user:pw@Good.com:8443/p?q#f") = ofString "Good.com" := by
  simp only [ofString_eq]
  decide +kernel
example : Carries toyReq := ⟨Gen.cHeaderCookie, by decide +kernel, by decide +kernel⟩
example : wireFraming toyReq false = ⟨true, true, false, false, true⟩ := by decide +kernel

/-- the concrete engine on real URL strings -/
example : urlEngine.resolve (.raw (ofString "http://Good.com/a/b")) (ofString "//user:pw@API.good.com:8443/x") =
    (.built (ofString "http") (ofString "api.good.com:8443") false false, ofString "api.good.com:8443") := by
  simp only [ofString_eq]
  decide +kernel
example : contacted (urlEngine.resolve (.raw (ofString "http://good.com/a")) (ofString "https://good.com@evil.com/")).1 =
    some (ofString "https", ofString "evil.com") := by
  simp only [ofString_eq]
  decide +kernel
example : (getRedirect (.raw (ofString "http://good.com/a")) (ofString "//[::1]/x")).unk = true := by
  simp only [ofString_eq]
  decide +kernel
example : ((runLoop urlEngine 16 (hostnameFromURLString (ofString "http://good.com/")) 
      [some ⟨302, ofString "//api.good.com/x"⟩, some ⟨307, ofString "http://evil.com/"⟩, some ⟨200, []⟩]
      (.raw (ofString "http://good.com/")) toyReq 0 none).1.map fun a => (contacted a.url, a.req.names.length)) =
    [(some (ofString "http", ofString "good.com"), 3), (some (ofString "http", ofString "api.good.com"), 3),
     (some (ofString "http", ofString "evil.com"), 1)] := by
  simp only [ofString_eq]
  decide +kernel

end Fh.Props.C20

/-! ### what the theorems of this file rest on -/
#print axioms Fh.Props.C20.trust_sound
#print axioms Fh.Props.C20.trust_complete
#print axioms Fh.Props.C20.fold_same_length
#print axioms Fh.Props.C20.creds_only_while_trusted
#print axioms Fh.Props.C20.untrusted_hop_is_clean
#print axioms Fh.Props.C20.stripped_stay_stripped
#print axioms Fh.Props.C20.hops_le_max
#print axioms Fh.Props.C20.framing_after_303
#print axioms Fh.Props.C20.after_303
#print axioms Fh.Props.C20.see_other_is_bodyless_get_or_head
#print axioms Fh.Props.C20.stripSensitive_method
#print axioms Fh.Props.C20.afterWrite_method
#print axioms Fh.Props.C20.post_becomes_get_on_301_302
#print axioms Fh.Props.C20.resolve_str
#print axioms Fh.Props.C20.urlEngine_no_userinfo
#print axioms Fh.Props.C20.judged_is_contacted
#print axioms Fh.Props.C20.creds_reach_only_trusted_hosts
#print axioms Fh.Props.C20.toy_no_userinfo
