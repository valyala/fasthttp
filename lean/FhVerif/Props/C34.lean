/-
C34 — Body streams deliver exact bytes and are closed exactly once.
`m` is maxHexIntChars (regenerated: Gen.maxHexIntChars64/32).

A body stream is the list `reads` of its successive Read results up to io.EOF; a "split into parts" is exactly such
a list (its concatenation `reads.flatten` is the content the stream produced).
-/
import FhVerif.Proofs.StreamC34
import FhVerif.Base.OfString

namespace Fh.Props.C34
open Fh Fh.Model Fh.Model.C34 Fh.Proofs.StreamC34

/-- C34 (chunked): for EVERY split of the produced bytes into Read results (empty results are skipped by the writer)
    fasthttp's chunked reader decodes what fasthttp's chunked writer wrote to exactly the produced bytes, and stops
    exactly behind the end chunk (at the trailer section), whatever follows. -/
theorem chunked_decode_encode (m : Nat) (hm : 1 ≤ m) (parts : List Bytes) (rest : Bytes)
    (hlen : ∀ p ∈ parts, p.length < 16 ^ m) :
    decodeChunked m (writeBodyChunked parts ++ rest) = .ok (parts.flatten, rest) :=
  chunked_loop rest (readBodyChunked_chunk m hm) (readBodyChunked_end m hm rest) parts hlen _ [] (Nat.lt_succ_self _)

/-- instantiated with the regenerated platform limits: a chunk is shorter than 2^60 (64-bit) / 2^28 (32-bit) bytes -/
theorem chunked_decode_encode64 (parts : List Bytes) (rest : Bytes)
    (hlen : ∀ p ∈ parts, p.length < 16 ^ Gen.maxHexIntChars64) :
    decodeChunked Gen.maxHexIntChars64 (writeBodyChunked parts ++ rest) = .ok (parts.flatten, rest) :=
  chunked_decode_encode _ (by decide) parts rest hlen

theorem chunked_decode_encode32 (parts : List Bytes) (rest : Bytes)
    (hlen : ∀ p ∈ parts, p.length < 16 ^ Gen.maxHexIntChars32) :
    decodeChunked Gen.maxHexIntChars32 (writeBodyChunked parts ++ rest) = .ok (parts.flatten, rest) :=
  chunked_decode_encode _ (by decide) parts rest hlen

/-- what the peer decodes does not depend on how the stream chunked its output -/
theorem chunk_split_irrelevant (m : Nat) (hm : 1 ≤ m) (p q : List Bytes) (rest : Bytes)
    (hp : ∀ x ∈ p, x.length < 16 ^ m) (hq : ∀ x ∈ q, x.length < 16 ^ m) (hsame : p.flatten = q.flatten) :
    (decodeChunked m (writeBodyChunked p ++ rest)).toOption = (decodeChunked m (writeBodyChunked q ++ rest)).toOption := by
  rw [chunked_decode_encode m hm p rest hp, chunked_decode_encode m hm q rest hq, hsame]

/-- the whole chunked body as written when there are no trailer fields: body, then the final CRLF is left for
    the trailer reader -/
theorem chunked_wire_decodes (m : Nat) (hm : 1 ≤ m) (parts : List Bytes) (hlen : ∀ p ∈ parts, p.length < 16 ^ m) :
    decodeChunked m (chunkedWire parts) = .ok (parts.flatten, crlf) :=
  chunked_decode_encode m hm parts crlf hlen

/-- "the chunked encoding decodes to them for any chunk split" — also for a decoder that was NOT written from
    fasthttp: the RFC 9112 reference decoder (Spec/Rfc9112.lean) reads fasthttp's chunked body (end chunk, no trailer
    fields, final CRLF) as exactly the produced bytes and stops exactly behind it. No size hypothesis is needed. -/
theorem chunked_decodes_by_rfc_reference (parts : List Bytes) (rest : Bytes) :
    Spec.Rfc.readChunks ((chunkedWire parts ++ rest).length + 1) (chunkedWire parts ++ rest) [] =
      .ok parts.flatten rest := by
  rw [chunkedWire, List.append_assoc]
  exact chunked_loop (ok := fun _ => True) (crlf ++ rest) (fun f p tail acc hne _ => readChunks_chunk f p tail acc hne)
    (readChunks_end rest) parts (fun _ _ => trivial) _ [] (Nat.lt_succ_self _)

/-! ### chunk framing: data chunks are never empty, the end chunk is written exactly once -/

/-- regenerated fact: `(*chunkedBodyWriter).Write` frames one write as one chunk (a single writeChunk call, no loop) -/
theorem cbw_one_chunk_per_write : Gen.cbwWriteChunkCalls = 1 ∧ Gen.cbwLoops = 0 := ⟨rfl, rfl⟩

theorem cbw_write_chunks (p : Bytes) : (∀ c ∈ cbwWrite p, c ≠ []) ∧ (cbwWrite p).flatten = p := by
  cases p <;> simp [cbwWrite]

theorem dataChunks_nonempty (reads : List Bytes) : ∀ c ∈ dataChunks reads, c ≠ [] := by
  intro c hc
  simp only [dataChunks, List.mem_flatMap] at hc
  obtain ⟨p, _, hcp⟩ := hc
  exact (cbw_write_chunks p).1 c hcp

theorem dataChunks_flatten (reads : List Bytes) : (dataChunks reads).flatten = reads.flatten := by
  induction reads with
  | nil => rfl
  | cons p t ih =>
    simp only [dataChunks, List.flatMap_cons, List.flatten_append, List.flatten_cons] at ih ⊢
    rw [(cbw_write_chunks p).2, ih]

/-- the wire is: every data chunk (all non-empty, so every size line is non-zero) framed by writeChunk, followed by the
    end chunk — which therefore occurs exactly once, at the end; the Read loop and the WriteTo framing produce the same
    bytes for the same sequence of reads/writes -/
theorem chunked_wire_shape (reads : List Bytes) :
    writeBodyChunked reads = (dataChunks reads).flatMap writeChunk ++ writeChunk [] ∧
    writeBodyChunkedWT reads = writeBodyChunked reads := by
  have h1 : writeBodyChunked reads = (dataChunks reads).flatMap writeChunk ++ writeChunk [] := by
    induction reads with
    | nil => rfl
    | cons p t ih =>
      rw [writeBodyChunked, ih]
      simp only [dataChunks, List.flatMap_cons, List.flatMap_append, List.append_assoc]
      cases p <;> simp [cbwWrite]
  exact ⟨h1, by rw [h1]; rfl⟩

/-- the reader does not take a data chunk for the end chunk: it reads on to the end chunk behind it (15 = maxHexIntChars64) -/
theorem data_chunk_is_not_end_chunk (c : Bytes) (hc : c ≠ []) (hlen : c.length < 16 ^ 15) (rest : Bytes) :
    decodeChunked 15 (writeChunk c ++ writeChunk [] ++ rest) = .ok (c, rest) := by
  have := chunked_decode_encode 15 (by decide) [c] rest (by simpa using hlen)
  simpa [writeBodyChunked, List.isEmpty_eq_false_iff.2 hc, List.append_assoc] using this

/-- the chunked reader terminates: with the fuel `decodeChunked` gives it, it never runs out (for ANY input) -/
theorem decode_never_out_of_fuel (m : Nat) (s : Bytes) : decodeChunked m s ≠ .error .fuel :=
  readBodyChunked_fuel m 0 _ s [] (Nat.lt_succ_self _)

/-- C34 (fixed length): when the stream produces exactly the declared number of bytes, exactly those bytes are
    written and no error is returned; -/
theorem fixed_bytes_exact (reads : List Bytes) (size : Nat) (h : reads.flatten.length = size) :
    writeBodyFixedSize reads size = (reads.flatten, false) := by
  simp [writeBodyFixedSize, h]

/-- … and whenever the produced length differs from the declared size the writer returns an error
    (the caller then closes the connection), in both directions. -/
theorem fixed_mismatch_is_reported (reads : List Bytes) (size : Nat) :
    (writeBodyFixedSize reads size).2 = true ↔ reads.flatten.length ≠ size := by
  simp [writeBodyFixedSize]

/-- The full fixed-length statement: never more body bytes on the wire than the declared Content-Length. -/
def C34_fixed_full : Prop :=
  ∀ (reads : List Bytes) (size : Nat), (writeBodyFixedSize reads size).1.length ≤ size

/-- The faithful model violates it: a stream that produces more than it declared is copied in full
    (writeBodyFixedSize compares the sizes only after the copy).  Recorded finding `fixed-overrun`. -/
theorem fixed_overrun_counterexample : ¬ C34_fixed_full := by
  intro h
  have := h [[1, 2, 3]] 1
  simp [writeBodyFixedSize] at this

/-- what holds of the code as it is: the wire never carries more than the declared size as long as the stream
    does not produce more than it declared -/
theorem fixed_within_declared_partial (reads : List Bytes) (size : Nat) (h : reads.flatten.length ≤ size) :
    (writeBodyFixedSize reads size).1.length ≤ size := by
  simpa [writeBodyFixedSize] using h

/-! ### closed exactly once -/

/-- C34 (close): for every sequence of API events on a Request/Response — attaching streams, wrapping by a compressing
    handler, writes that succeed, fail, or panic in Read, ResetBody/Reset/ReleaseBody/CloseBodyStream whose Close call succeeds OR
    returns an error, and the compressing goroutine finishing at ANY point — no stream is ever closed twice, the
    attached plain stream is not closed yet, and every stream that was attached and is no longer attached has been closed exactly once. -/
theorem closed_exactly_once (evs : List CloseEv) (hfresh : FreshTrace [] evs) :
    let s := closeRun evs
    (∀ id, closeCount s id ≤ 1) ∧
    (∀ id, s.att = .plain id → closeCount s id = 0) ∧
    (∀ id, id ∈ s.everSet → s.att ≠ .plain id → s.att ≠ .comp id → closeCount s id = 1) := by
  intro s
  have hinv : CloseInv s := closeFold_inv evs {} closeInv_init hfresh
  exact ⟨List.nodup_iff_count.1 hinv.nodup, fun id hatt => List.count_eq_zero.2 (hinv.attPlain id hatt).1,
    fun id hset h1 h2 => hinv.nodup.count.trans (if_pos (hinv.detached id hset h1 h2))⟩

/-- every path that ends with the object being written (without panic), reset or released — the last event is a
    `detachClose` — leaves EVERY stream ever attached closed exactly once -/
theorem closed_exactly_once_after_release (evs : List CloseEv) (ce : Bool)
    (hfresh : FreshTrace [] (evs ++ [.detachClose ce])) :
    let s := closeRun (evs ++ [.detachClose ce])
    s.att = .none ∧ ∀ id, id ∈ s.everSet → closeCount s id = 1 := by
  intro s
  have hatt : s.att = .none := by
    show (List.foldl closeStep {} (evs ++ [.detachClose ce])).att = .none
    rw [List.foldl_append]; exact detach_att _
  exact ⟨hatt, fun id hset => (closed_exactly_once _ hfresh).2.2 id hset (hatt ▸ nofun) (hatt ▸ nofun)⟩

/-! ### non-vacuity: the five paths named by the property, and concrete encodings -/

-- success / write error: Write ends with closeBodyStream
example : closeCount (closeRun [.set 7, .detachClose false]) 7 = 1 := by decide
-- Read panic in Response.Write (recovered, not closed there), then the response is reset
example : closeCount (closeRun [.set 7, .panicWrite]) 7 = 0 ∧ closeCount (closeRun [.set 7, .panicWrite, .detachClose false]) 7 = 1 := by decide
-- Reset before write, then a second Reset / ReleaseBody: still once
example : closeCount (closeRun [.set 7, .detachClose false, .detachClose false, .noop]) 7 = 1 := by decide
-- a stream whose Close returns an ERROR is detached all the same: a later Reset does not close it again
example : closeCount (closeRun [.set 7, .detachClose true, .detachClose false, .detachClose true]) 7 = 1 := by decide
example : (closeRun [.set 7, .detachClose true]).att = .none := by decide
-- replacing a stream closes the old one; release closes the new one
example : (closeRun [.set 1, .set 2, .detachClose false]).log = [2, 1] := by decide
-- compressed wrapper: the goroutine finishes before or after the consumer closes — once either way
example : closeCount (closeRun [.set 3, .compress, .writerFinish 3, .detachClose false]) 3 = 1 := by decide
example : closeCount (closeRun [.set 3, .compress, .detachClose false, .writerFinish 3]) 3 = 1 := by decide
example : FreshTrace [] [.set 3, .compress, .detachClose false, .writerFinish 3, .set 4, .panicWrite, .detachClose false] := by
  simp [FreshTrace]
example : writeBodyChunked [ofString "ab", [], ofString "c"] = ofString "2\r\nab\r\n1\r\nc\r\n0\r\n" := by
  simp only [ofString_eq]
  decide +kernel
example : (decodeChunked 15 (ofString "2\r\nab\r\n1;x=y\r\nc\r\n0\r\n\r\nNEXT")).toOption =
    some (ofString "abc", ofString "\r\nNEXT") := by
  simp only [ofString_eq]
  decide +kernel
example : (decodeChunked 15 (ofString "2\r\nabXX0\r\n\r\n")).toOption = none := by
  simp only [ofString_eq]
  decide +kernel
example : writeBodyFixedSize [[1, 2], [3]] 3 = ([1, 2, 3], false) := by decide
example : dataChunks [[1], [], [2, 3], []] = [[1], [2, 3]] := by decide

end Fh.Props.C34

/-! ### what the theorems of this file rest on -/
#print axioms Fh.Props.C34.chunked_decode_encode
#print axioms Fh.Props.C34.chunked_decode_encode64
#print axioms Fh.Props.C34.chunked_decode_encode32
#print axioms Fh.Props.C34.chunk_split_irrelevant
#print axioms Fh.Props.C34.chunked_wire_decodes
#print axioms Fh.Props.C34.chunked_decodes_by_rfc_reference
#print axioms Fh.Props.C34.cbw_one_chunk_per_write
#print axioms Fh.Props.C34.cbw_write_chunks
#print axioms Fh.Props.C34.dataChunks_nonempty
#print axioms Fh.Props.C34.dataChunks_flatten
#print axioms Fh.Props.C34.chunked_wire_shape
#print axioms Fh.Props.C34.data_chunk_is_not_end_chunk
#print axioms Fh.Props.C34.decode_never_out_of_fuel
#print axioms Fh.Props.C34.fixed_bytes_exact
#print axioms Fh.Props.C34.fixed_mismatch_is_reported
#print axioms Fh.Props.C34.fixed_overrun_counterexample
#print axioms Fh.Props.C34.fixed_within_declared_partial
#print axioms Fh.Props.C34.closed_exactly_once
#print axioms Fh.Props.C34.closed_exactly_once_after_release
