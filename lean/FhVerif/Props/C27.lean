/-
C27 — URIs survive serialisation and agree with net/url.

Model.parseURI / fullURI / requestURI mirror uri.go (tied by the C27 harness on every run).  The agreement with
net/url is a three-way differential run, not a theorem.
-/
import FhVerif.Proofs.URI
import FhVerif.Base.OfString

namespace Fh.Props.C27
open Fh Fh.Model Fh.Proofs.URI

/-- appendQuotedPath decodes back to the path, for every byte string -/
theorem quotePath_decodes_back (p : Bytes) : decodeNoPlus (quotePath p) = p := decode_quotePath p

/-- the quoted path contains no '?', no '#' and no control byte, so the first '?' / '#' of RequestURI() and
    FullURI() are the delimiters the serialiser wrote -/
theorem quotePath_no_delimiter (p : Bytes) : ∀ x ∈ quotePath p, x ≠ 63 ∧ x ≠ 35 ∧ isCTL x = false := quotePath_clean p

/-- URI.Path() is a fixed point: quoting it and normalising the result (what a re-parse does) returns it -/
theorem normalize_idempotent_on_output (src : Bytes) :
    normalizePath (quotePath (normalizePath src)) = normalizePath src := normalize_quote_fixed src

/-- the path / query / fragment split of URI.parse inverts the serialisation  path ["?" query] ["#" fragment] -/
theorem tail_split_inverts (path q f : Bytes) (hq : (35 : UInt8) ∉ q) :
    splitPQF (quotePath path ++ (if q.isEmpty then [] else 63 :: q) ++ (if f.isEmpty then [] else 35 :: f)) =
      (quotePath path, q, f) :=
  splitPQF_tail _ q f (fun hm => (quotePath_clean path 63 hm).1 rfl) (fun hm => (quotePath_clean path 35 hm).2.1 rfl) hq

/-- the property as stated: every successfully parsed absolute URI whose host contains no '%' re-parses from
    FullURI() to the same scheme, host, path, query string and fragment, and from RequestURI() (against the same
    host) to the same path and query string -/
def C27_full : Prop :=
  ∀ (uri : Bytes) (u : URI), parseURI [] uri = .ok u → (37 : UInt8) ∉ u.host →
    (∃ u', parseURI [] (u.fullURI none) = .ok u' ∧ u'.getScheme = u.getScheme ∧ u'.host = u.host ∧
      u'.getPath = u.getPath ∧ u'.queryString = u.queryString ∧ u'.hash = u.hash) ∧
    (∃ u', parseURI u.host (u.requestURI none) = .ok u' ∧ u'.getPath = u.getPath ∧
      u'.queryString = u.queryString)

/-- C27, FullURI(): proved for every parsed URI whose host is accepted unchanged by parseHost
    (`parseHost u.host = ok u.host`).  Missing for `C27_full`: that every lower-cased host without '%' that
    parseHost produced is such a fixed point (the re-parse of each explored host is executed by the harness). -/
theorem fulluri_reparse_same_partial (uri : Bytes) (u : URI) (hp : parseURI [] uri = .ok u)
    (hfix : parseHost u.host = .ok u.host) :
    ∃ u', parseURI [] (u.fullURI none) = .ok u' ∧ u'.getScheme = u.getScheme ∧ u'.host = u.host ∧
      u'.getPath = u.getPath ∧ u'.queryString = u.queryString ∧ u'.hash = u.hash ∧
      parseArgs u'.queryString = parseArgs u.queryString := by
  have h := fulluri_reparse uri u hp hfix
  exact ⟨_, h, getScheme_idem u _ rfl, rfl, getPath_idem u _ rfl, rfl, rfl, rfl⟩

/-- C27, RequestURI(): same guard -/
theorem requesturi_reparse_same_partial (uri : Bytes) (u : URI) (hp : parseURI [] uri = .ok u)
    (hfix : parseHost u.host = .ok u.host) :
    ∃ u', parseURI u.host (u.requestURI none) = .ok u' ∧ u'.host = u.host ∧ u'.getPath = u.getPath ∧
      u'.queryString = u.queryString ∧ parseArgs u'.queryString = parseArgs u.queryString := by
  obtain ⟨sch, h⟩ := requesturi_reparse uri u hp hfix
  exact ⟨_, h, rfl, getPath_idem u _ rfl, rfl, rfl⟩

/-- a host accepted by parseHost contains none of the delimiters '/', '?', '#', '@' and no control byte -/
theorem host_has_no_delimiter (h r : Bytes) (hp : parseHost h = .ok r) :
    ∀ c ∈ h, c ≠ 47 ∧ c ≠ 63 ∧ c ≠ 35 ∧ c ≠ 64 ∧ isCTL c = false :=
  fun c hc => (okHostByte_facts c).1 (parseHost_bytes h r hp c hc)

def exURI : Bytes := ofString "HTTP://User@Example.COM:80/a/../b%20c?x=1#f"
def exParsed : URI := ⟨ofString "http", ofString "example.com:80", ofString "User", [], ofString "/a/../b%20c",
  ofString "/b c", ofString "x=1", ofString "f"⟩

example : (parseURI [] exURI).toOption = some exParsed := by decide +kernel
example : exParsed.fullURI none = ofString "http://example.com:80/b%20c?x=1#f" := by
  simp only [ofString_eq]
  decide +kernel
example : (parseHost exParsed.host).toOption = some exParsed.host := by decide +kernel
example : (parseURI [] (ofString "http://[fe80::1%25en0]:8080/")).toOption.map (·.host) =
    some (ofString "[fe80::1%en0]:8080") := by
  simp only [ofString_eq]
  decide +kernel
example : (parseURI [] (ofString "http://[zzz%25x]/")).toOption = none := by
  simp only [ofString_eq]
  decide +kernel
example : (parseURI [] (ofString "http://[::1]x]/")).toOption = none := by
  simp only [ofString_eq]
  decide +kernel
example : quotePath (ofString "/a b?#%") = ofString "/a%20b%3F%23%25" := by
  simp only [ofString_eq]
  decide +kernel

end Fh.Props.C27

/-! ### what the theorems of this file rest on -/
#print axioms Fh.Props.C27.quotePath_decodes_back
#print axioms Fh.Props.C27.quotePath_no_delimiter
#print axioms Fh.Props.C27.normalize_idempotent_on_output
#print axioms Fh.Props.C27.tail_split_inverts
#print axioms Fh.Props.C27.fulluri_reparse_same_partial
#print axioms Fh.Props.C27.requesturi_reparse_same_partial
#print axioms Fh.Props.C27.host_has_no_delimiter
