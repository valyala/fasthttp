/-
C41 — TCPDialer bounds concurrent dials, rotates addresses, honours its timeout.

Level: proof, partial.  Proved for every event list / every environment behaviour: the concurrency bound, the
rotation (after the repair of the uint32 wrap-around), the identity of the timeout error, and that every blocking
point of `tryDial` has the deadline as an alternative exit.  Residue (assumed in `Model.Dialer.Prompt`, sampled by
the harness with generous slack): the kernel's connect behaviour and the promptness of Go timers / context
cancellation — the "plus scheduling slack" of the statement.  Everything under `Gen.` is regenerated from tcpdialer.go
on every run.
-/
import FhVerif.Proofs.Dialer
import FhVerif.Gen.Consts
import FhVerif.Gen.DialerCtx

namespace Fh.Props.C41
open Fh Fh.Model.Dialer Fh.Proofs.Dialer

/-- DefaultDialTimeout (used by Dial / DialDualStack) -/
theorem defaultDialTimeout_eq_3s : Gen.defaultDialTimeoutNs = 3 * 1000000000 := by decide +kernel

/-- The semaphore of the model (`State.init N` has capacity N = Concurrency) exists for EVERY path through `dial`:
    pinned to the source — the `d.once.Do(…)` block that creates
    `d.concurrencyCh` from `Concurrency` is the first statement of `dial`, before any `return` and before any call of
    `tryDial` (in particular before the DisableDNSResolution shortcut). -/
theorem semaphore_created_before_any_dial : Gen.dialOnceShape = (true, true, 0) := by decide +kernel

/-- No attempt bypasses the semaphore: every `tryDial` call in `dial` — the DisableDNSResolution shortcut and every
    iteration of the address loop, first try and fail-over tries alike — is handed the dialer's own `d.concurrencyCh`.
    In the model `dialLoop` passes the same `hasSem` to every try, and
    each try is one `spawn … dialDone` actor of the semaphore system, so the bound below counts connect ATTEMPTS. -/
theorem every_attempt_uses_the_semaphore : Gen.dialTryDialSemArgs = ["d.concurrencyCh", "d.concurrencyCh"] := by decide +kernel

/-- A TCPDialer with Concurrency N > 0 never has more than N dials in progress — for EVERY interleaving of the
    atomic steps of any number of concurrent `tryDial` calls; the dials in progress are exactly the occupied slots. -/
theorem in_progress_le_N (N : Nat) (hN : 0 < N) (evs : List Ev) (s : State)
    (hr : run (State.init N) evs = some s) : s.inProgress ≤ N ∧ s.inProgress = s.sem := by
  obtain ⟨_, hinv⟩ := sinv_run hr
  obtain ⟨h1, h2⟩ := hinv hN
  omega

/-- release on return: a dial in progress can always finish (its deferred receive never blocks), and afterwards it
    no longer holds a slot -/
theorem release_never_blocks (N : Nat) (hN : 0 < N) (evs : List Ev) (s : State)
    (hr : run (State.init N) evs = some s) (a : Nat) (ha : s.actors[a]? = some .dialing) (o : DialOutcome) :
    ∃ s', step s (.dialDone a o) = some s' ∧ s'.sem + 1 = s.sem ∧ s'.actors[a]? = some (.done (resOf o)) := by
  obtain ⟨hc, hinv⟩ := sinv_run hr
  obtain ⟨h1, _⟩ := hinv hN
  have hlt : a < s.actors.length := (List.getElem?_eq_some_iff.mp ha).1
  have hpos : 0 < s.inProgress := List.countP_pos_iff.mpr ⟨.dialing, List.mem_of_getElem? ha, rfl⟩
  have hne : s.cap ≠ 0 := by omega
  have hs : s.sem ≠ 0 := by omega
  simp only [step, ha, hne, hs, if_false]
  exact ⟨_, rfl, by simp only; omega, by simp [hlt]⟩

theorem all_returned_all_free (N : Nat) (hN : 0 < N) (evs : List Ev) (s : State)
    (hr : run (State.init N) evs = some s) (hd : ∀ p ∈ s.actors, ∃ r, p = .done r) : s.sem = 0 := by
  obtain ⟨_, h2⟩ := in_progress_le_N N hN evs s hr
  rw [← h2]
  apply List.countP_eq_zero.mpr
  intro p hp
  obtain ⟨r, rfl⟩ := hd p hp
  simp [Pc.isDialing]

/-- the deadline is an exit of the semaphore wait: a waiting call can always take its timer branch, returns the
    timeout, and takes no slot -/
theorem timeout_exit_always_enabled (s : State) (a : Nat) (ha : s.actors[a]? = some .waiting) :
    ∃ s', step s (.timerFire a) = some s' ∧ s'.sem = s.sem ∧ s'.actors[a]? = some (.done .timeout) := by
  obtain ⟨hlt, _⟩ := List.getElem?_eq_some_iff.mp ha
  simp only [step, ha]
  exact ⟨_, rfl, rfl, by simp [hlt]⟩

/-- Every way `tryDial` can time out — deadline already passed on entry, timer fired while waiting for a slot,
    context deadline exceeded inside DialContext — returns ErrDialTimeout wrapped in ErrDialWithUpstream with the
    address that was being dialled; a timed-out semaphore wait performs no send/receive on the channel. -/
theorem timeout_error_is_wrapped_ErrDialTimeout (addr : Bytes) (hasSem : Bool) (e : TryEnv)
    (h : e.expired = true ∨ (hasSem = true ∧ e.sem = .timerFired) ∨ e.dial = .ctxDeadline) :
    (tryDial addr hasSem e).1 = .err ⟨addr, true⟩ ∧ (tryDial addr hasSem e).2.sends = (tryDial addr hasSem e).2.recvs :=
  ⟨(tryDial_fst addr hasSem e).trans (if_pos h), tryDial_balanced addr hasSem e⟩

/-- every error of `tryDial` is wrapped with the address dialled; nothing else is reported as a timeout -/
theorem error_is_wrapped_with_upstream (addr : Bytes) (hasSem : Bool) (e : TryEnv) (x : Err)
    (h : (tryDial addr hasSem e).1 = .err x) :
    x.upstream = addr ∧
    (x.isDialTimeout = true ↔ (e.expired = true ∨ (hasSem = true ∧ e.sem = .timerFired) ∨ e.dial = .ctxDeadline)) := by
  refine ⟨tryDial_err_upstream addr hasSem e x h, ?_⟩
  rw [tryDial_fst] at h
  split at h
  · rename_i hc; cases h; exact ⟨fun _ => hc, fun _ => rfl⟩
  · rename_i hc
    split at h <;> cases h
    exact ⟨fun ht => (nomatch ht), fun ht => absurd ht hc⟩

/-- `dial` hands the timeout of a try through unchanged: an error it returns names the address of the LAST try made,
    and if that error is a timeout no further address was tried after it (the loop returned at once). -/
theorem dial_error_names_last_address (addrs : List Bytes) (hasSem : Bool) (idx : Nat) (env : Nat → Nat → TryEnv)
    (hn : 0 < addrs.length) (e : Err) (h : (dial addrs hasSem idx env).res = some (.err e)) :
    ∃ a, (dial addrs hasSem idx env).tried.getLast? = some a ∧ e.upstream = addrs.getD a [] := by
  have _ := hn   -- not needed: no error is handed in, so the error comes from a try
  exact (err_names_last nextFixed addrs hasSem env addrs.length idx 0 none e h).resolve_left fun h0 => nomatch h0.2

/-- The deadline of the connect is the ABSOLUTE deadline `dial` computed on entry (`TimedEnv.deadline`, the same value
    the semaphore timer is derived from), not a fresh relative timeout started after the wait for a slot.  Pinned to
    the source: the context handed to DialContext is built by
    `context.WithDeadline(…, deadline)` with `deadline` the (never reassigned) parameter of tryDial.  This is what
    makes assumption `Prompt.dial_by_ctx` speak about `deadline` and lets the time spent waiting for a slot count
    against the timeout. -/
theorem connect_context_uses_absolute_deadline :
    Gen.tryDialCtx = ("WithDeadline", "deadline") ∧ Gen.tryDialDeadlineIsParam = true := by decide +kernel

/-- ONE deadline per Dial call: `dial` calls time.Now() exactly once, assigns `deadline` exactly once and before the
    name lookup, and hands that same `deadline` to getTCPAddrs and to every tryDial.  So the time spent in the Resolver, in the wait for a slot and in earlier address attempts all counts
    against the caller's timeout: `TimedEnv.deadline` below is that value. -/
theorem single_deadline_computed_on_entry :
    Gen.dialDeadlineShape = (1, true, "deadline", ["deadline", "deadline"]) := by decide +kernel

/-- If timers and context cancellation are at most `slack` late (`Prompt`), `tryDial` returns no later than its
    deadline plus twice that slack (immediately when the deadline had already passed on entry). -/
theorem returns_within_timeout_plus_slack (hasSem : Bool) (e : TryEnv) (x : TimedEnv) (slack : Nat)
    (hp : Prompt hasSem e x slack) :
    tryDialReturnTime hasSem e x ≤ max x.t0 x.deadline + 2 * slack := by
  obtain ⟨_, _, h3, h4⟩ := hp
  have hm : max x.semEnd x.deadline ≤ x.deadline + slack := Nat.max_le.mpr ⟨h3, Nat.le_add_right _ _⟩
  have hd : x.deadline ≤ max x.t0 x.deadline := Nat.le_max_right _ _
  have ht : x.t0 ≤ max x.t0 x.deadline := Nat.le_max_left _ _
  unfold tryDialReturnTime
  split
  · omega
  · split <;> omega

/-- Whatever the endpoints do, the addresses a `dial` call tries are an initial segment of the rotation
    `addrs[(idx + j) % n]`, j = 0, 1, …, for EVERY value of the uint32 rotation counter. -/
theorem tries_follow_rotation (addrs : List Bytes) (hasSem : Bool) (idx : Nat) (env : Nat → Nat → TryEnv)
    (hn : 0 < addrs.length) (hW : addrs.length < 2 ^ 32) :
    ∃ m, m ≤ addrs.length ∧
      (dial addrs hasSem idx env).tried = (List.range m).map (fun j => (idx % addrs.length + j) % addrs.length) :=
  (tried_prefix addrs hasSem env hn hW addrs.length idx 0 none).imp fun _ h => ⟨h.1, h.2.1⟩

/-- `dial` tries each resolved address of the host, in rotation, before failing: if it returns anything but a
    connection or a timeout, every address index was tried (exactly once, in rotation order). -/
theorem rotation_covers_all_addresses (addrs : List Bytes) (hasSem : Bool) (idx : Nat) (env : Nat → Nat → TryEnv)
    (hn : 0 < addrs.length) (hW : addrs.length < 2 ^ 32)
    (hnc : ∀ u, (dial addrs hasSem idx env).res ≠ some (.conn u))
    (hnt : ∀ e, (dial addrs hasSem idx env).res = some (.err e) → e.isDialTimeout = false) :
    (dial addrs hasSem idx env).tried = (List.range addrs.length).map (fun j => (idx % addrs.length + j) % addrs.length) ∧
    ∀ a, a < addrs.length → a ∈ (dial addrs hasSem idx env).tried := by
  obtain ⟨m, _, htr, hall⟩ := tried_prefix addrs hasSem env hn hW addrs.length idx 0 none
  cases hall hnc hnt
  exact ⟨htr, fun a ha => htr ▸ rot_covers addrs.length idx a ha⟩

/-- consequence used by the run-time monitor: if some address accepts whenever it is tried and no try times out,
    the dial succeeds -/
theorem live_address_is_reached (addrs : List Bytes) (hasSem : Bool) (idx : Nat) (env : Nat → Nat → TryEnv)
    (hn : 0 < addrs.length) (hW : addrs.length < 2 ^ 32) (a0 : Nat) (ha0 : a0 < addrs.length)
    (hlive : ∀ t, ∃ u, (tryDial (addrs.getD a0 []) hasSem (env t a0)).1 = .conn u)
    (hnt : ∀ e, (dial addrs hasSem idx env).res = some (.err e) → e.isDialTimeout = false) :
    ∃ u, (dial addrs hasSem idx env).res = some (.conn u) := by
  -- a try of a0 connects and ends the loop with a connection; and without a connection all addresses are tried
  have key : ∀ k idx t last, a0 ∈ (dialLoop nextFixed addrs hasSem env k idx t last).tried →
      (∀ e, (dialLoop nextFixed addrs hasSem env k idx t last).res = some (.err e) → e.isDialTimeout = false) →
      ∃ u, (dialLoop nextFixed addrs hasSem env k idx t last).res = some (.conn u) := by
    intro k idx t last hmem hnt'
    fun_induction dialLoop nextFixed addrs hasSem env k idx t last with
    | case1 => cases hmem
    | case2 _ _ _ _ _ _ u => exact ⟨u, rfl⟩
    | case3 _ _ _ _ _ _ e _ ht => exact nomatch ht.symm.trans (hnt' e rfl)
    | case4 _ _ t _ _ _ _ hx _ _ ih =>
      rcases List.mem_cons.mp hmem with heq | hmem
      · obtain ⟨u, hu⟩ := hlive t
        rw [heq] at hu
        cases hu.symm.trans hx
      · exact ih hmem hnt'
  refine Classical.byContradiction fun hcon => hcon (key addrs.length idx 0 none ?_ hnt)
  exact (rotation_covers_all_addresses addrs hasSem idx env hn hW (fun u hu => hcon ⟨u, hu⟩) hnt).2 a0 ha0

/-! ### the defect that was repaired (recorded in KNOWN_FINDINGS.txt as fixed)

Before the repair the loop advanced the index with `idx++` on a uint32.  When the shared counter wraps
(idx = 2^32 - 1) and 2^32 is not a multiple of n, the same address is tried twice and another is skipped:
with three addresses of which only the third is alive the dial failed without ever trying it. -/

private def env3 : Nat → Nat → TryEnv := fun _ a => ⟨false, .immediate, if a = 2 then .connected else .failed⟩
private def addrs3 : List Bytes := [[1], [2], [3]]

/-- the dial came back with a non-timeout error -/
def failedHard (r : DialRes) : Bool :=
  match r.res with
  | some (.err e) => !e.isDialTimeout
  | _ => false

theorem unfixed_rotation_wrap_counterexample :
    ¬ (∀ (idx : Nat), idx < 2 ^ 32 → failedHard (dialUnfixed addrs3 false idx env3) = true →
        ∀ a, a < 3 → a ∈ (dialUnfixed addrs3 false idx env3).tried) := by
  intro h
  have := h (2 ^ 32 - 1) (by decide) (by decide) 2 (by decide)
  revert this
  decide

/-- what the old loop tried at the wrap point: address 0 twice, address 2 never -/
theorem unfixed_tried_at_wrap : (dialUnfixed addrs3 false (2 ^ 32 - 1) env3).tried = [0, 0, 1] := by decide +kernel

/-- the repaired loop at the same point: 0, 1, 2 — reaches the live address -/
example : dial addrs3 false (2 ^ 32 - 1) env3 = ⟨some (.conn [3]), [0, 1, 2]⟩ := by decide +kernel
/-- all refuse: the three addresses in rotation from idx % 3, error names the last one -/
example : dial addrs3 true 7 (fun _ _ => ⟨false, .immediate, .failed⟩) = ⟨some (.err ⟨[1], false⟩), [1, 2, 0]⟩ := by decide +kernel
/-- a timeout ends the rotation at once -/
example : dial addrs3 true 7 (fun _ a => ⟨false, .immediate, if a = 2 then .ctxDeadline else .failed⟩)
    = ⟨some (.err ⟨[3], true⟩), [1, 2]⟩ := by decide +kernel
/-- N = 1: the second caller waits, times out without a slot; the first finishes and frees the slot -/
example : (run (State.init 1) [.spawn, .spawn, .trySend 0, .trySend 1, .timerFire 1, .dialDone 0 .connected]).map
    (fun s => (s.sem, s.actors)) = some (0, [.done .conn, .done .timeout]) := by decide +kernel
example : run (State.init 1) [.spawn, .spawn, .trySend 0, .trySend 1, .acquire 1] = none := by decide +kernel
example : ((run (State.init 2) [.spawn, .spawn, .spawn, .trySend 0, .trySend 1, .trySend 2]).map State.inProgress) = some 2 := by decide +kernel
example : Prompt true ⟨false, .timerFired, .connected⟩ ⟨0, 100, 103, 0⟩ 5 :=
  ⟨by decide, by decide, by decide, by decide⟩

end Fh.Props.C41

/-! ### what the theorems of this file rest on -/
#print axioms Fh.Props.C41.defaultDialTimeout_eq_3s
#print axioms Fh.Props.C41.semaphore_created_before_any_dial
#print axioms Fh.Props.C41.every_attempt_uses_the_semaphore
#print axioms Fh.Props.C41.in_progress_le_N
#print axioms Fh.Props.C41.release_never_blocks
#print axioms Fh.Props.C41.all_returned_all_free
#print axioms Fh.Props.C41.timeout_exit_always_enabled
#print axioms Fh.Props.C41.timeout_error_is_wrapped_ErrDialTimeout
#print axioms Fh.Props.C41.error_is_wrapped_with_upstream
#print axioms Fh.Props.C41.dial_error_names_last_address
#print axioms Fh.Props.C41.connect_context_uses_absolute_deadline
#print axioms Fh.Props.C41.single_deadline_computed_on_entry
#print axioms Fh.Props.C41.returns_within_timeout_plus_slack
#print axioms Fh.Props.C41.tries_follow_rotation
#print axioms Fh.Props.C41.rotation_covers_all_addresses
#print axioms Fh.Props.C41.live_address_is_reached
#print axioms Fh.Props.C41.unfixed_rotation_wrap_counterexample
#print axioms Fh.Props.C41.unfixed_tried_at_wrap
