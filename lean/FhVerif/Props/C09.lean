/-
C09 — Head parsing is decided by the head's own bytes.
For every fields parser `parse`, every buffer `H` on which the head is complete and every continuation `S`:
parsing `H ++ S` gives the same result (same first line, same block, same consumed length) as parsing `H`;
in particular a complete head is never answered with "need more input".
-/
import FhVerif.Model.HeadEnd
import FhVerif.Base.OfString

namespace Fh.Props.C09
open Fh Fh.Model

theorem firstLineGo_some (H cur : Bytes) (off : Nat) (r : Bytes × Nat) (h : firstLineGo H cur off = some r) :
    (off < r.2 ∧ r.2 ≤ off + H.length) ∧ ∀ S, firstLineGo (H ++ S) cur off = some r := by
  fun_induction firstLineGo H cur off with
  | case1 => cases h
  | case2 c t cur off hc he ih =>
    obtain ⟨h1, h2⟩ := ih h
    exact ⟨by rw [List.length_cons]; omega, fun S => by rw [List.cons_append, firstLineGo, if_pos hc, if_pos he]; exact h2 S⟩
  | case3 c t cur off hc he =>
    cases h
    exact ⟨by rw [List.length_cons]; omega, fun S => by rw [List.cons_append, firstLineGo, if_pos hc, if_neg he]⟩
  | case4 c t cur off hc ih =>
    obtain ⟨h1, h2⟩ := ih h
    exact ⟨by rw [List.length_cons]; omega, fun S => by rw [List.cons_append, firstLineGo, if_neg hc]; exact h2 S⟩

theorem rawEndGo_some (H cur : Bytes) (off n : Nat) (h : rawEndGo H cur off = some n) :
    (off < n ∧ n ≤ off + H.length) ∧ ∀ S, rawEndGo (H ++ S) cur off = some n := by
  fun_induction rawEndGo H cur off with
  | case1 => cases h
  | case2 c t cur off hc he =>
    cases h
    exact ⟨by rw [List.length_cons]; omega, fun S => by rw [List.cons_append, rawEndGo, if_pos hc, if_pos he]⟩
  | case3 c t cur off hc he ih =>
    obtain ⟨h1, h2⟩ := ih h
    exact ⟨by rw [List.length_cons]; omega, fun S => by rw [List.cons_append, rawEndGo, if_pos hc, if_neg he]; exact h2 S⟩
  | case4 c t cur off hc ih =>
    obtain ⟨h1, h2⟩ := ih h
    exact ⟨by rw [List.length_cons]; omega, fun S => by rw [List.cons_append, rawEndGo, if_neg hc]; exact h2 S⟩

theorem getD_append_left (R S : Bytes) (i : Nat) (h : i < R.length) : (R ++ S).getD i 0 = R.getD i 0 := by
  simp only [List.getD_eq_getElem?_getD]
  rw [List.getElem?_append_left h]

theorem blockOK_append (R S : Bytes) (n : Nat) (hn : n ≤ R.length) : blockOK (R ++ S) n = blockOK R n := by
  unfold blockOK
  by_cases h2 : n ≥ 2
  · rw [getD_append_left R S _ (Nat.lt_of_lt_of_le (Nat.sub_lt_of_pos_le (by decide) h2) hn),
      getD_append_left R S _ (by omega)]
  · rw [decide_eq_false h2]; rfl

theorem startsCRLF_append (R S : Bytes) (h : 2 ≤ R.length) : startsCRLF (R ++ S) = startsCRLF R := by
  rw [startsCRLF, getD_append_left R S 0 (by omega), getD_append_left R S 1 (by omega), startsCRLF]

theorem startsCRLF_length {R : Bytes} (h : startsCRLF R = true) : 2 ≤ R.length :=
  match R, h with
  | [], h | [_], h => absurd (Bool.and_eq_true_iff.1 h).2 Bool.false_ne_true
  | _ :: _ :: _, _ => Nat.le_add_left 2 _

theorem blockOK_ge {R : Bytes} {n : Nat} (h : blockOK R n = true) : 2 ≤ n := by
  simp only [blockOK, Bool.and_eq_true, decide_eq_true_eq] at h
  exact h.1.1

theorem parseHead_parsed {α : Type} {parse : Bytes → Bytes → α} {buf : Bytes} {a : α} {c : Nat}
    (h : parseHead parse buf = .parsed a c) :
    ∃ line m, firstLineGo buf [] 0 = some (line, m) ∧
      ((startsCRLF (buf.drop m) = true ∧ a = parse line [] ∧ c = m + 2) ∨
       (startsCRLF (buf.drop m) = false ∧ ∃ n, rawEnd (buf.drop m) = some n ∧ blockOK (buf.drop m) n = true ∧
          a = parse line ((buf.drop m).take n) ∧ c = m + n)) := by
  unfold parseHead at h
  split at h
  · cases h
  · rename_i line m hf
    refine ⟨line, m, hf, ?_⟩
    simp only at h
    split at h
    · cases h; exact .inl ⟨‹_›, rfl, rfl⟩
    · split at h
      · cases h
      · split at h
        · cases h; exact .inr ⟨Bool.eq_false_iff.2 ‹_›, _, ‹_›, ‹_›, rfl, rfl⟩
        · cases h

/-- C09: the result of parsing a complete head does not depend on the bytes that follow it, and is never "need more". -/
theorem head_verdict_suffix_independent {α : Type} (parse : Bytes → Bytes → α) (H S : Bytes) (a : α) (c : Nat)
    (h : parseHead parse H = .parsed a c) : parseHead parse (H ++ S) = .parsed a c := by
  obtain ⟨line, m, hf, hcase⟩ := parseHead_parsed h
  obtain ⟨hle, happ⟩ := firstLineGo_some H [] 0 _ hf
  have hdrop : (H ++ S).drop m = H.drop m ++ S := List.drop_append_of_le_length (by omega)
  unfold parseHead
  rw [happ S]
  simp only [hdrop]
  generalize H.drop m = R at hcase
  rcases hcase with ⟨hs, rfl, rfl⟩ | ⟨hs, n, hre, hok, rfl, rfl⟩
  · rw [startsCRLF_append R S (startsCRLF_length hs), hs]; rfl
  · obtain ⟨hn, happ⟩ := rawEndGo_some R [] 0 n hre
    -- the accepted block lies inside `R`, so `R` has the two bytes `startsCRLF` looks at
    rw [startsCRLF_append R S (Nat.le_trans (blockOK_ge hok) (by omega)), hs]
    simp only [show rawEnd (R ++ S) = some n from happ S, blockOK_append R S n (by omega), hok,
      List.take_append_of_le_length (show n ≤ R.length by omega)]
    rfl

theorem no_needMore_on_complete_head {α : Type} (parse : Bytes → Bytes → α) (H S : Bytes) (a : α) (c : Nat)
    (h : parseHead parse H = .parsed a c) : parseHead parse (H ++ S) ≠ .needMore := by
  rw [head_verdict_suffix_independent parse H S a c h]; nofun

def consumedOf {α : Type} : HeadRes α → Option Nat
  | .needMore => none
  | .parsed _ c => some c

/-- a block whose blank line is a bare LF is never complete, whatever follows it
    (before the repair it was accepted exactly when a CRLFCRLF appeared later in the buffer) -/
example : consumedOf (parseHead (fun l b => (l, b))
    (ofString "GET / HTTP/1.1\r\nHost: a\n\nGET /x HTTP/1.1\r\nHost: b\r\n\r\n")) = none := by
  simp only [ofString_eq]
  decide +kernel
/-! non-vacuity: a complete head (LF line end, CRLF blank line) followed by other bytes -/
example : consumedOf (parseHead (fun l b => (l, b)) (ofString "GET / HTTP/1.1\r\nHost: a\n\r\nBODY")) = some 26 := by
  simp only [ofString_eq]
  decide +kernel

end Fh.Props.C09

/-! ### what the theorems of this file rest on -/
#print axioms Fh.Props.C09.firstLineGo_some
#print axioms Fh.Props.C09.rawEndGo_some
#print axioms Fh.Props.C09.getD_append_left
#print axioms Fh.Props.C09.blockOK_append
#print axioms Fh.Props.C09.startsCRLF_append
#print axioms Fh.Props.C09.startsCRLF_length
#print axioms Fh.Props.C09.blockOK_ge
#print axioms Fh.Props.C09.parseHead_parsed
#print axioms Fh.Props.C09.head_verdict_suffix_independent
#print axioms Fh.Props.C09.no_needMore_on_complete_head
