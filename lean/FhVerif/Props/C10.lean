/-
C10 — Connection persistence matches the Connection header sent.
Model: Model/ConnClose.lean (`connectionClose` of serveConnCounted and the response's Connection header); on the request
side the `close` of Model.parseDecision.
-/
import FhVerif.Model.ConnClose
import FhVerif.Proofs.ReqFraming
import FhVerif.Base.OfString

namespace Fh.Props.C10
open Fh Fh.Model Fh.Spec.Rfc Fh.Proofs.ReqFraming

theorem mem_serveLoop {cfg : LoopCfg} {n : Nat} {es : List ReqEv} {o : RespOut} (h : o ∈ serveLoop cfg n es) :
    ∃ k e, o = respOut cfg k e := by
  induction es generalizing n with
  | nil => cases h
  | cons e rest ih =>
    rw [serveLoop] at h
    split at h
    · exact ⟨n, e, List.mem_singleton.1 h⟩
    · exact (List.mem_cons.1 h).elim (fun h => ⟨n, e, h⟩) ih

/-- every response: the connection is closed after it exactly when it carries `Connection: close`, and then it does not
    carry `Connection: keep-alive` as well -/
theorem close_iff_header (cfg : LoopCfg) (n : Nat) (es : List ReqEv) :
    ∀ o ∈ serveLoop cfg n es, (o.closedAfter = true ↔ o.closeHeader = true) ∧
      (o.closeHeader = true → o.keepAliveHeader = false) := by
  intro o ho
  obtain ⟨k, e, rfl⟩ := mem_serveLoop ho
  unfold respOut; split <;> simp

theorem http10_keepalive_header (cfg : LoopCfg) (n : Nat) (e : ReqEv) (h10 : e.http11 = false)
    (hopen : respClose cfg n e = false) : respOut cfg n e = ⟨false, true, false⟩ := by
  simp [respOut, hopen, h10]

theorem close_causes (cfg : LoopCfg) (n : Nat) (e : ReqEv)
    (h : e.reqClose = true ∨ cfg.disableKeepalive = true ∨ (cfg.maxReqs > 0 ∧ n ≥ cfg.maxReqs) ∨
      e.handlerClose = true ∨ (cfg.closeOnShutdown = true ∧ e.stopping = true)) :
    respOut cfg n e = ⟨true, false, true⟩ := by
  have : respClose cfg n e = true := by
    unfold respClose
    rcases h with h | h | h | h | h
    · simp [h]
    · simp [h]
    · simp [h.1, h.2]
    · simp [h]
    · simp [h.1, h.2]
  simp [respOut, this]

theorem nothing_after_close (cfg : LoopCfg) (es : List ReqEv) : ∀ (n : Nat) (pre post : List RespOut) (o : RespOut),
    serveLoop cfg n es = pre ++ o :: post → o.closedAfter = true → post = [] := by
  intro n pre post o h hc
  fun_induction serveLoop cfg n es generalizing pre with
  | case1 => cases pre <;> cases h
  | case2 n e rest o' hcl =>
    -- the loop stopped here: the list is a singleton
    cases pre with
    | nil => exact (List.cons.inj h).2.symm
    | cons p pre' => cases pre' <;> cases (List.cons.inj h).2
  | case3 n e rest o' hopen ih =>
    cases pre with
    | nil => exact absurd ((List.cons.inj h).1 ▸ hc) hopen
    | cons p pre' => exact ih pre' (List.cons.inj h).2

-- MaxRequestsPerConn = 2: the third request is not served
example : serveLoop ⟨false, 2, false⟩ 1 [⟨false, true, false, false⟩, ⟨false, true, false, false⟩, ⟨false, true, false, false⟩] =
    [⟨false, false, false⟩, ⟨true, false, true⟩] := by decide +kernel

/-- RFC 9110 §7.6.1: `close` is one of the comma-separated, case-insensitive tokens of the field value -/
def hasToken (v tok : Bytes) : Bool := (splitOnByte 44 v).any fun it => lowerB (trimWs it) == tok

theorem splitComma_eq (v : Bytes) : splitComma v = splitOnByte 44 v := by
  induction v with
  | nil => rfl
  | cons c t ih => simp only [splitComma, splitOnByte, ih]; rfl

theorem stripSp_eq (b : Bytes) : stripSp b = trimWs b := by
  have : isSpTab = isWs := by funext c; rfl
  unfold stripSp trimWs; rw [this]

/-- fasthttp's token test is the RFC's, for any non-empty field value -/
theorem hasHeaderValue_close (v : Bytes) (hne : v ≠ []) : hasHeaderValue v strClose = hasToken v (ofString "close") := by
  unfold hasHeaderValue hasToken
  simp only [List.isEmpty_eq_false_iff.2 hne, Bool.false_eq_true, if_false, splitComma_eq]
  congr 1
  funext it
  rw [ciEq_eq_lower _ (by decide +kernel) _ (.inr (by decide +kernel)), stripSp_eq,
    show lowerB strClose = ofString "close" by decide +kernel]

/-- a Connection field carrying the `close` token anywhere in its list marks the request close
    (`Close`, `keep-alive, close`, `foo,close` — the inputs the unrepaired parser ignored) -/
theorem close_token_marks_close (noH11 : Bool) (st : PState) (k v : Bytes) (st' : PState)
    (hk : ciEq k strConnectionB = true) (hcl : ciEq k strContentLength = false) (hte : ciEq k strTransferEncoding = false)
    (hh : ciEq k strHostB = false) (hv : v ≠ []) (htok : hasToken v (ofString "close") = true)
    (hs : stepField noH11 st k v = some st') : st'.connClose = true := by
  rw [stepField_conn noH11 st (stepField_valid hs) hcl hte hh hk] at hs
  split at hs <;> cases hs
  · rfl
  · simp [hasHeaderValue_close v hv, htok]

example : (parseDecision false [(ofString "Host", ofString "h"), (ofString "Connection", ofString "keep-alive, Close")]) =
    .ok (-2) true := by
  simp only [ofString_eq]
  decide +kernel
example : (parseDecision false [(ofString "Host", ofString "h"), (ofString "connection", ofString "foo,close")]) =
    .ok (-2) true := by
  simp only [ofString_eq]
  decide +kernel

end Fh.Props.C10

/-! ### what the theorems of this file rest on -/
#print axioms Fh.Props.C10.mem_serveLoop
#print axioms Fh.Props.C10.close_iff_header
#print axioms Fh.Props.C10.http10_keepalive_header
#print axioms Fh.Props.C10.close_causes
#print axioms Fh.Props.C10.nothing_after_close
#print axioms Fh.Props.C10.splitComma_eq
#print axioms Fh.Props.C10.stripSp_eq
#print axioms Fh.Props.C10.hasHeaderValue_close
#print axioms Fh.Props.C10.close_token_marks_close
