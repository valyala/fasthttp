/-
C07 — Configured size limits bound what is buffered.
Model: Model/Limits.lean, the body readers of http.go with a ghost count of the body bytes held in the buffer.
-/
import FhVerif.Model.Limits

namespace Fh.Props.C07
open Fh Fh.Model

def buffered : LimRes → Nat
  | .ok n => n
  | .tooLarge n => n

/-- Content-Length bodies: refused exactly when the declared length exceeds L -/
theorem fixed_le_limit (L cl : Nat) (hL : 0 < L) :
    buffered (limFixed L cl) ≤ L ∧ ((∃ n, limFixed L cl = .tooLarge n) ↔ cl > L) := by
  unfold limFixed
  by_cases h : cl > L
  · simp [h, hL, buffered]
  · simp [h, buffered]; omega

/-- chunked bodies: at no point more than L body bytes are buffered, and the body is refused exactly when its
    total size exceeds L -/
theorem chunked_le_limit (L : Nat) (hL : 0 < L) (cs : List Nat) :
    ∀ h0, h0 ≤ L → buffered (limChunked L h0 cs) ≤ L ∧
      ((∃ n, limChunked L h0 cs = .tooLarge n) ↔ h0 + cs.sum > L) := by
  induction cs with
  | nil => intro h0 h; simp [limChunked, buffered, h]
  | cons c rest ih =>
    intro h0 h
    simp only [limChunked]
    by_cases hc : h0 + c > L
    · simp [hL, hc, buffered, h]; omega
    · have := ih (h0 + c) (by omega)
      simp only [hL, hc, and_false, if_false]
      refine ⟨this.1, ?_⟩
      rw [this.2]; simp [Nat.add_assoc]

example : limChunked 10 0 [4, 4, 4] = .tooLarge 8 := by decide
example : limChunked 10 0 [4, 6] = .ok 10 := by decide

theorem identity_le (L : Nat) (hL : 0 < L) (grow : Nat → Nat) (hgrow : ∀ n, n ≤ grow n) (B : Nat) (hB : L + 1 ≤ B)
    (reads : List Nat) (cap offset : Nat) (h1 : offset ≤ cap) (h2 : offset ≤ L) (h3 : cap ≤ B) :
    buffered (limIdentity L grow cap offset reads) ≤ B ∧
      ∀ n, limIdentity L grow cap offset reads = .ok n → n ≤ L := by
  induction reads generalizing cap offset with
  | nil => exact ⟨Nat.le_trans h1 h3, fun n h => by cases h; exact h2⟩
  | cons r rest ih =>
    simp only [limIdentity]
    have ho : offset + min r (cap - offset) ≤ cap := by omega
    generalize offset + min r (cap - offset) = o at ho ⊢
    split
    · exact ⟨Nat.le_trans ho h3, nofun⟩
    · rename_i hbig
      have hoL : o ≤ L := Nat.le_of_not_gt fun h => hbig ⟨hL, h⟩
      -- the new capacity is either unchanged, or grown but capped at L+1
      refine ih _ _ ?_ hoL ?_
      · split
        · split
          · exact Nat.le_succ_of_le hoL
          · exact hgrow o
        · exact ho
      · split
        · split
          · exact hB
          · rename_i hg
            exact Nat.le_trans (Nat.le_of_not_gt fun h => hg ⟨hL, h⟩) (Nat.le_of_succ_le hB)
        · exact h3

/-- identity bodies: the buffer never holds more than max(L+1, initial capacity) bytes — the +1 is the probe byte that
    detects "larger than L" — and a body that is accepted has at most L bytes -/
theorem identity_bound (L : Nat) (hL : 0 < L) (grow : Nat → Nat) (hgrow : ∀ n, n ≤ grow n) (reads : List Nat) :
    ∀ cap offset, offset ≤ cap → offset ≤ L → cap ≤ max (L + 1) cap →
      buffered (limIdentity L grow cap offset reads) ≤ max (L + 1) cap ∧
      (∀ n, limIdentity L grow cap offset reads = .ok n → n ≤ L) :=
  fun cap offset h1 h2 _ => identity_le L hL grow hgrow (max (L + 1) cap) (Nat.le_max_left ..) reads cap offset h1 h2
    (Nat.le_max_right ..)

/-- doubling satisfies the hypothesis `hgrow` of `identity_bound` (the real code rounds 2·n up further) -/
example : ∀ n : Nat, n ≤ 2 * n := fun n => by omega
example : limIdentity 10 (fun n => 2 * n) 4 0 [4, 4, 4] = .tooLarge 11 := by decide

/-- the *WithLimit helpers never return more than L bytes: they fail instead -/
theorem withLimit_le (L total : Nat) (hL : 0 < L) :
    (∀ n, limReturned (limCopy L total) = some n → n ≤ L) ∧ buffered (limCopy L total) ≤ L + 1 ∧
    (limReturned (limCopy L total) = none ↔ total > L) := by
  unfold limCopy
  have h0 : ¬ L = 0 := by omega
  simp only [h0, if_false]
  by_cases h : total > L
  · have : min total (L + 1) = L + 1 := by omega
    simp [this, limReturned, buffered, h]
  · have : min total (L + 1) = total := by omega
    simp [this, limReturned, buffered, h]; omega

/-- MaxRequestBodySize ≤ 0 means the 4 MiB default (constant regenerated from server.go) -/
theorem default_limit (c : Int) (h : c ≤ 0) : effectiveMaxBody c = 4 * 1024 * 1024 := by
  simp [effectiveMaxBody, h, Gen.defaultMaxRequestBodySize]

theorem head_gt_buf_431 (bufSize headLen : Nat) (h : headLen > bufSize) :
    headFitResponse (headFit bufSize headLen) = some (431, true) := by
  have : ¬ headLen ≤ bufSize := by omega
  simp [headFit, this, headFitResponse]

end Fh.Props.C07

/-! ### what the theorems of this file rest on -/
#print axioms Fh.Props.C07.fixed_le_limit
#print axioms Fh.Props.C07.chunked_le_limit
#print axioms Fh.Props.C07.identity_le
#print axioms Fh.Props.C07.identity_bound
#print axioms Fh.Props.C07.withLimit_le
#print axioms Fh.Props.C07.default_limit
#print axioms Fh.Props.C07.head_gt_buf_431
