/-
C21 — https requests are never sent over a plaintext connection.

Proved here: the decision logic.  For every sequence of Client.Do / HostClient.Do calls (every hop of a redirect
chain is such a call; LBClient hands the request unchanged to the HostClient it chose) on one Client and any number of
caller-made HostClients: an https request is written only to a connection that dialAddr wrapped in TLS and that was
dialled for the request's own host (AddMissingPort host, 443 by default); an http request is written only to a
connection dialled without TLS by a plaintext HostClient; a HostClient whose IsTLS does not match the request's scheme
returns ErrHostClientRedirectToDifferentScheme and writes nothing; no connection ever carries requests of both schemes.

Partial (residue): the TLS handshake itself.  `Conn.tls` says that dialAddr took the tls.Client path; that the
resulting session protects the bytes and authenticates the peer is crypto/tls' business and appears below as the
hypothesis `handshake` of `C21_partial`.
-/
import FhVerif.Proofs.TlsRoute
import FhVerif.Gen.Facts
import FhVerif.Gen.PoolShape
import FhVerif.Base.OfString

namespace Fh.Props.C21
open Fh Fh.Model.TlsRoute Fh.Proofs.TlsRoute

/-- C21 (Client.Do): an https request is written only to a TLS connection dialled for its own host -/
theorem https_only_over_tls_to_own_host (dialOk : Bytes → Bool) (s : St) (hinv : Inv s) (scheme host : Bytes) (keep cfgOk : Bool)
    (id : Nat) (hw : (clientDo dialOk s scheme host keep cfgOk).2 = .wrote id) (hs : isHTTPS scheme = true) :
    ∃ cn : Conn, (clientDo dialOk s scheme host keep cfgOk).1.conns[id]? = some cn ∧ cn.tls = true ∧
      cn.addr = addMissingPort host true := by
  obtain ⟨_, _, h3, _⟩ := clientDo_spec dialOk hinv scheme host keep cfgOk
  obtain ⟨cn, _, e, t, a, _, _⟩ := h3 id hw
  exact ⟨cn, e, t.trans hs, hs ▸ a⟩

/-- C21 (Client.Do): an http request is written only to a plaintext connection that belongs to a plaintext
    HostClient (one of `m`, never one of `ms`), dialled for its own host -/
theorem http_never_on_https_pool (dialOk : Bytes → Bool) (s : St) (hinv : Inv s) (scheme host : Bytes) (keep cfgOk : Bool)
    (id : Nat) (hw : (clientDo dialOk s scheme host keep cfgOk).2 = .wrote id) (hs : isHTTPS scheme = false) :
    ∃ (cn : Conn) (hc : HC), (clientDo dialOk s scheme host keep cfgOk).1.conns[id]? = some cn ∧ cn.tls = false ∧
      cn.addr = addMissingPort host false ∧
      (clientDo dialOk s scheme host keep cfgOk).1.hcs[cn.owner]? = some hc ∧ hc.isTLS = false := by
  obtain ⟨_, _, h3, _⟩ := clientDo_spec dialOk hinv scheme host keep cfgOk
  obtain ⟨cn, hc, e, t, a, o, ot⟩ := h3 id hw
  exact ⟨cn, hc, e, t.trans hs, hs ▸ a, o, ot.trans hs⟩

/-- C21: a HostClient whose IsTLS does not match the scheme refuses: error, state untouched, nothing written -/
theorem hostclient_refuses_scheme_mismatch (dialOk : Bytes → Bool) (s : St) (hinv : Inv s) (i : Nat) (hc : HC)
    (hi : s.hcs[i]? = some hc) (scheme : Bytes) (keep : Bool) (hne : hc.isTLS ≠ isHTTPS scheme) :
    hcDo dialOk s i scheme keep = (s, .mismatch) :=
  hcDo_of_mismatch dialOk scheme keep hi hne

/-- ... and what it does write goes to a connection it dialled itself, for its own address, with its own TLS setting -/
theorem hostclient_writes_own_conn (dialOk : Bytes → Bool) (s : St) (hinv : Inv s) (i : Nat) (scheme : Bytes) (keep : Bool)
    (id : Nat) (hw : (hcDo dialOk s i scheme keep).2 = .wrote id) :
    ∃ hc : HC, s.hcs[i]? = some hc ∧ hc.isTLS = isHTTPS scheme ∧
      (hcDo dialOk s i scheme keep).1.conns[id]? = some ⟨hc.addr, isHTTPS scheme, i⟩ := by
  obtain ⟨hc, e, t, c⟩ := (hcDo_spec dialOk hinv i scheme keep).2.2.1 id hw
  exact ⟨hc, e, t, t ▸ c⟩

/-- C21: the TLS wrapping of a dialled connection is a function of the IsTLS flag alone: a TLS HostClient whose
    TLS-config lookup fails (no server name derivable, none configured, verification on) gets an error and the state is
    untouched - so the same happens on EVERY later call; nothing is dialled, nothing is written. -/
theorem tls_config_failure_is_an_error_every_time (dialOk : Bytes → Bool) (s : St) (i : Nat) (hc : HC)
    (hi : s.hcs[i]? = some hc) (ht : hc.isTLS = true) (hcfg : hc.cfgOk = false) (hp : hc.pool = [])
    (scheme : Bytes) (keep : Bool) :
    (hcDo dialOk s i scheme keep).1 = s ∧ ∀ id, (hcDo dialOk s i scheme keep).2 ≠ .wrote id := by
  by_cases hs : hc.isTLS = isHTTPS scheme
  · rw [hcDo_of_dialErr dialOk scheme keep hi hs (hp ▸ rfl) (by rw [ht, hcfg]; rfl)]
    exact ⟨rfl, fun _ h => nomatch h⟩
  · rw [hcDo_of_mismatch dialOk scheme keep hi hs]
    exact ⟨rfl, fun _ h => nomatch h⟩

/-- REGENERATED fact: the condition guarding dialAddr's tls.Client / tlsClientHandshake calls reads `isTLS` (and the
    "already TLS" type test) and nothing else - in particular not the TLS config -/
theorem dialAddr_wraps_iff_isTLS_flag :
    Gen.dialAddr_tls_guard = ["isTLS", "isTLSAlready"] ∧ Gen.dialAddr_tls_guard_count = 1 := by decide +kernel

/-- C21, per ATTEMPT: in HostClient.Do's retry loop the hooks may rewrite the request between attempts (the script
    gives the scheme the request has when each attempt starts).  Whatever they do, an attempt that wrote its request
    wrote it to a connection of this HostClient whose TLS flag is `isHTTPS` of the scheme the request had AT THAT
    attempt, and the HostClient's IsTLS equals it: a request rewritten to the other scheme is never written. -/
theorem every_attempt_rechecks_scheme (dialOk : Bytes → Bool) (s : St) (hinv : Inv s) (i : Nat)
    (atts : List (Bytes × Bool × Bool)) (k id : Nat) (hw : (retryOn dialOk s i atts).2[k]? = some (.wrote id)) :
    ∃ (a : Bytes × Bool × Bool) (hc : HC), atts[k]? = some a ∧ s.hcs[i]? = some hc ∧ hc.isTLS = isHTTPS a.1 ∧
      (retryOn dialOk s i atts).1.conns[id]? = some (⟨hc.addr, isHTTPS a.1, i⟩ : Conn) :=
  (retryOn_spec dialOk i atts s hinv).2.2 k id hw

/-- ... so an attempt whose (rewritten) scheme does not match IsTLS writes nothing -/
theorem rewritten_attempt_is_refused (dialOk : Bytes → Bool) (s : St) (hinv : Inv s) (i : Nat) (hc : HC)
    (hi : s.hcs[i]? = some hc) (atts : List (Bytes × Bool × Bool)) (k : Nat) (a : Bytes × Bool × Bool)
    (ha : atts[k]? = some a) (hne : hc.isTLS ≠ isHTTPS a.1) : ∀ id, (retryOn dialOk s i atts).2[k]? ≠ some (.wrote id) := by
  intro id hw
  obtain ⟨a', hc', ea, eh, th, _⟩ := every_attempt_rechecks_scheme dialOk s hinv i atts k id hw
  cases ha.symm.trans ea
  cases hi.symm.trans eh
  exact hne th

/-- REGENERATED fact: the condition guarding ErrHostClientRedirectToDifferentScheme is `c.IsTLS != req.URI().isHTTPS()`
    as far as identifiers go: it reads the HostClient's IsTLS and the scheme of the request URI and NO other field of
    the request (not where the request came from, not its server-side isTLS flag, not its method or headers).  This is
    what `hcDo` models: the refusal is a function of (hc.isTLS, scheme) alone. -/
theorem scheme_check_reads_only_scheme_and_IsTLS :
    Gen.schemeCheck_cond_idents = ["IsTLS", "URI", "c", "isHTTPS", "req"] := by decide +kernel

/-- the scheme check precedes the RoundTrip call among the top-level statements of doNonNilReqResp -/
def checkBeforeWrite : Bool :=
  match Gen.schemeCheck_stmt_index, Gen.roundTrip_stmt_index with
  | some a, some b => decide (a < b)
  | _, _ => false

/-- REGENERATED facts: the scheme-vs-IsTLS check is a top-level statement of the per-attempt function
    HostClient.doNonNilReqResp, it precedes the statement that calls RoundTrip (which writes the request), and no
    other function of the package calls a RoundTrip method - so every transmission is preceded by the check -/
theorem scheme_check_guards_every_transmission :
    Gen.roundTrip_callers = ["doNonNilReqResp"] ∧ checkBeforeWrite = true := by decide +kernel

/-- REGENERATED fact (skeleton emitted by extract/pool_c18.go): CloseIdleConnections takes a COPY of the idle list
    under the lock, truncates the list, unlocks and closes the copies.  `Inv.poolOk` of Proofs/TlsRoute (whatever sits
    in a HostClient's idle list was dialled by that HostClient, with its TLS setting) relies on an idle entry never
    being shared with anything else; walking the list's own backing array outside the lock would close - and hand to
    the global clientConn pool - a connection another goroutine has just put back as idle. -/
theorem closeIdle_hands_out_a_copy :
    Gen.poolShape_CloseIdleConnections =
      ["lock", "scratch = copy of c.conns", "c.conns = c.conns[:0]", "unlock", "range scratch => CloseConn"] := by decide +kernel

/-- Client.Do itself never reports a scheme mismatch: it always picks a HostClient of the right kind -/
theorem client_never_mismatches (dialOk : Bytes → Bool) (s : St) (hinv : Inv s) (scheme host : Bytes) (keep cfgOk : Bool) :
    (clientDo dialOk s scheme host keep cfgOk).2 ≠ .mismatch :=
  (clientDo_spec dialOk hinv scheme host keep cfgOk).2.2.2

/-! ### whole runs (interleaved requests, redirect chains, LBClient) -/

def schemeOf : Op → Option Bytes
  | .newHC _ _ _ => none
  | .closeIdle _ => none
  | .client scheme _ _ _ => some scheme
  | .host _ scheme _ => some scheme

def Wrote (e : Op × Option Res × St) (id : Nat) : Prop := e.2.1 = some (.wrote id)

/-- a write is routed as the property demands -/
def WriteOK (e : Op × Option Res × St) : Prop :=
  ∀ id, Wrote e id →
    match e.1 with
    | .client scheme host _ _ =>
      ∃ cn : Conn, e.2.2.conns[id]? = some cn ∧ cn.tls = isHTTPS scheme ∧ cn.addr = addMissingPort host (isHTTPS scheme)
    | .host i scheme _ =>
      ∃ (cn : Conn) (hc : HC), e.2.2.conns[id]? = some cn ∧ e.2.2.hcs[i]? = some hc ∧ hc.isTLS = isHTTPS scheme ∧
        cn.tls = isHTTPS scheme ∧ cn.addr = hc.addr
    | .newHC _ _ _ => False
    | .closeIdle _ => False

theorem step_inv (dialOk : Bytes → Bool) (s : St) (hinv : Inv s) (op : Op) :
    Inv (step dialOk s op).1 ∧ Ext s (step dialOk s op).1 ∧ WriteOK (op, (step dialOk s op).2, (step dialOk s op).1) := by
  cases op with
  | newHC addr isTLS cfgOk =>
    obtain ⟨h1, h2⟩ := inv_addHC hinv ⟨addr, isTLS, [], cfgOk⟩ rfl
    exact ⟨h1, h2, fun _ hw => nomatch hw⟩
  | closeIdle i =>
    simp only [step]
    cases hi : s.hcs[i]? with
    | none => exact ⟨hinv, Ext.refl s, fun _ hw => nomatch hw⟩
    | some hc =>
      have := inv_setPool hinv hi [] fun _ hx => nomatch hx
      exact ⟨this.1, this.2, fun _ hw => nomatch hw⟩
  | client scheme host keep cfgOk =>
    obtain ⟨h1, h2, h3, _⟩ := clientDo_spec dialOk hinv scheme host keep cfgOk
    refine ⟨h1, h2, fun id hw => ?_⟩
    obtain ⟨cn, _, e, t, a, _, _⟩ := h3 id (Option.some.inj hw)
    exact ⟨cn, e, t, a⟩
  | host i scheme keep =>
    obtain ⟨h1, h2, h6, _⟩ := hcDo_spec dialOk hinv i scheme keep
    refine ⟨h1, h2, fun id hw => ?_⟩
    obtain ⟨hc, e, t, c⟩ := h6 id (Option.some.inj hw)
    obtain ⟨hc', e', a', t'⟩ := h2.hcKeep i hc e
    exact ⟨_, hc', c, e', t'.trans t, t, a'.symm⟩

def lastState (dialOk : Bytes → Bool) : St → List Op → St
  | s, [] => s
  | s, op :: rest => lastState dialOk (step dialOk s op).1 rest

theorem ext_last (dialOk : Bytes → Bool) : ∀ (ops : List Op) (s : St), Inv s → Ext s (lastState dialOk s ops) := by
  intro ops
  induction ops with
  | nil => intro s _; exact Ext.refl s
  | cons op rest ih =>
    intro s hinv
    obtain ⟨h1, h2, _⟩ := step_inv dialOk s hinv op
    exact h2.trans (ih _ h1)

/-- C21 for whole runs: from any state satisfying the invariant (in particular the empty one), every event keeps
    the invariant, every write is routed as the property demands, and the connection it used is still the same
    connection in the final state -/
theorem run_sound (dialOk : Bytes → Bool) : ∀ (ops : List Op) (s : St), Inv s →
    ∀ e ∈ run dialOk s ops, Inv e.2.2 ∧ WriteOK e ∧ Ext e.2.2 (lastState dialOk s ops) := by
  intro ops
  induction ops with
  | nil => intro s _ e he; simp [run] at he
  | cons op rest ih =>
    intro s hinv e he
    obtain ⟨h1, _, h3⟩ := step_inv dialOk s hinv op
    simp only [run, List.mem_cons] at he
    rcases he with rfl | he
    · exact ⟨h1, h3, ext_last dialOk rest _ h1⟩
    · exact ih _ h1 e he

/-- C21: no connection ever carries both an https and an http request -/
theorem no_conn_serves_both_schemes (dialOk : Bytes → Bool) (ops : List Op)
    (e1 e2 : Op × Option Res × St) (h1 : e1 ∈ run dialOk {} ops) (h2 : e2 ∈ run dialOk {} ops)
    (id : Nat) (w1 : Wrote e1 id) (w2 : Wrote e2 id) (sc1 sc2 : Bytes)
    (s1 : schemeOf e1.1 = some sc1) (s2 : schemeOf e2.1 = some sc2) : isHTTPS sc1 = isHTTPS sc2 := by
  have key : ∀ e ∈ run dialOk {} ops, ∀ sc, Wrote e id → schemeOf e.1 = some sc →
      ∃ cn : Conn, (lastState dialOk {} ops).conns[id]? = some cn ∧ cn.tls = isHTTPS sc := by
    intro e he sc hw hs
    obtain ⟨_, ok, ext⟩ := run_sound dialOk ops {} inv_empty e he
    have := ok id hw
    obtain ⟨op, r, st⟩ := e
    cases op with
    | newHC a t c => cases hs
    | closeIdle j => cases hs
    | client scheme host keep c =>
      cases hs
      obtain ⟨cn, e', t, _⟩ := this
      exact ⟨cn, ext.connKeep id cn e', t⟩
    | host i scheme keep =>
      cases hs
      obtain ⟨cn, _, e', _, _, t, _⟩ := this
      exact ⟨cn, ext.connKeep id cn e', t⟩
  obtain ⟨c1, e1', t1⟩ := key e1 h1 sc1 w1 s1
  obtain ⟨c2, e2', t2⟩ := key e2 h2 sc2 w2 s2
  cases e1'.symm.trans e2'
  exact t1.symm.trans t2

/-- The property as stated: `secure cn` = "the bytes written to `cn` are protected by a TLS session with the server
    the connection was dialled for".  Establishing it needs the handshake, which is outside the model. -/
def C21_full (secure : Conn → Prop) : Prop :=
  ∀ (dialOk : Bytes → Bool) (ops : List Op), ∀ e ∈ run dialOk {} ops, ∀ id, Wrote e id →
    match e.1 with
    | .client scheme host _ _ =>
      ∃ cn : Conn, e.2.2.conns[id]? = some cn ∧
        (isHTTPS scheme = true → secure cn ∧ cn.addr = addMissingPort host true) ∧
        (isHTTPS scheme = false → cn.tls = false)
    | .host i scheme _ =>
      ∃ (cn : Conn) (hc : HC), e.2.2.conns[id]? = some cn ∧ e.2.2.hcs[i]? = some hc ∧ hc.isTLS = isHTTPS scheme ∧
        cn.addr = hc.addr ∧ (isHTTPS scheme = true → secure cn) ∧ (isHTTPS scheme = false → cn.tls = false)
    | .newHC _ _ _ => False
    | .closeIdle _ => False

/-- C21 up to the handshake: if every connection that dialAddr wrapped in TLS is secure, the property holds -/
theorem C21_partial (secure : Conn → Prop) (handshake : ∀ cn : Conn, cn.tls = true → secure cn) : C21_full secure := by
  intro dialOk ops e he id hw
  obtain ⟨_, ok, _⟩ := run_sound dialOk ops {} inv_empty e he
  have := ok id hw
  obtain ⟨op, r, st⟩ := e
  cases op with
  | newHC a t c => exact this
  | closeIdle j => exact this
  | client scheme host keep c =>
    obtain ⟨cn, e', t, a⟩ := this
    exact ⟨cn, e', fun hs => ⟨handshake cn (t.trans hs), hs ▸ a⟩, t.trans⟩
  | host i scheme keep =>
    obtain ⟨cn, hc, e', eh, th, t, a⟩ := this
    exact ⟨cn, hc, e', eh, th, a, fun hs => handshake cn (t.trans hs), t.trans⟩

/-! ### non-vacuity -/

def allOk : Bytes → Bool := fun _ => true
def aTest : Bytes := ofString "a.test"

/-- http then https then http again to the same name, an https request with an explicit port, a caller-made plaintext
    HostClient asked for https and then for http, and a request whose scheme ("ftp") is neither -/
def demoOps : List Op :=
  [.client strHTTP aTest true, .client strHTTPS aTest true, .client strHTTP aTest true,
   .client strHTTPS (ofString "a.test:8443") false, .newHC (ofString "a.test:80") false,
   .host 3 strHTTPS true, .host 3 strHTTP true, .client (ofString "ftp") aTest true]

example : (run allOk {} demoOps).map (·.2.1) =
    [some (.wrote 0), some (.wrote 1), some (.wrote 0), some (.wrote 2), none, some .mismatch, some (.wrote 3), some .err] := by
  decide +kernel
example : (lastState allOk {} demoOps).conns =
    [⟨ofString "a.test:80", false, 0⟩, ⟨ofString "a.test:443", true, 1⟩, ⟨ofString "a.test:8443", true, 2⟩,
     ⟨ofString "a.test:80", false, 3⟩] := by
  simp only [ofString_eq]
  decide +kernel
/-- a TLS HostClient for "[::1]" (no port: no server name derivable, verification on): every request is refused -/
example : ((run allOk {} [.newHC (ofString "[::1]") true false, .host 0 strHTTPS true, .host 0 strHTTPS true,
      .host 0 strHTTPS false]).map (·.2.1)) = [none, some .err, some .err, some .err] ∧
    (lastState allOk {} [.newHC (ofString "[::1]") true false, .host 0 strHTTPS true, .host 0 strHTTPS true]).conns = [] := by
  simp only [ofString_eq]
  decide +kernel
/-- a plaintext HostClient; the first attempt (http) fails after the write, the hook rewrites the URL to https: refused -/
example : (retryOn allOk (step allOk {} (.newHC (ofString "a.test:80") false)).1 0
      [(strHTTP, true, true), (strHTTPS, true, false)]).2 = [.wrote 0, .mismatch] := by
  simp only [ofString_eq]
  decide +kernel
example : (retryOn allOk (step allOk {} (.newHC (ofString "a.test:80") false)).1 0
      [(strHTTP, true, true), (strHTTP, true, false)]).2 = [.wrote 0, .wrote 1] := by
  simp only [ofString_eq]
  decide +kernel
/-- CloseIdleConnections empties the pool: the next request dials a fresh connection of the right kind -/
example : ((run allOk {} [.client strHTTPS aTest true, .client strHTTPS aTest true, .closeIdle 0, .client strHTTPS aTest true]).map (·.2.1)) =
    [some (.wrote 0), some (.wrote 0), none, some (.wrote 1)] := by decide +kernel
example : addMissingPort (ofString "[::1]") true = ofString "[::1]:443" := by
  simp only [ofString_eq]
  decide +kernel
example : addMissingPort (ofString "[::1]:8080") true = ofString "[::1]:8080" := by
  simp only [ofString_eq]
  decide +kernel

end Fh.Props.C21

/-! ### what the theorems of this file rest on -/
#print axioms Fh.Props.C21.https_only_over_tls_to_own_host
#print axioms Fh.Props.C21.http_never_on_https_pool
#print axioms Fh.Props.C21.hostclient_refuses_scheme_mismatch
#print axioms Fh.Props.C21.hostclient_writes_own_conn
#print axioms Fh.Props.C21.tls_config_failure_is_an_error_every_time
#print axioms Fh.Props.C21.dialAddr_wraps_iff_isTLS_flag
#print axioms Fh.Props.C21.every_attempt_rechecks_scheme
#print axioms Fh.Props.C21.rewritten_attempt_is_refused
#print axioms Fh.Props.C21.scheme_check_reads_only_scheme_and_IsTLS
#print axioms Fh.Props.C21.scheme_check_guards_every_transmission
#print axioms Fh.Props.C21.closeIdle_hands_out_a_copy
#print axioms Fh.Props.C21.client_never_mismatches
#print axioms Fh.Props.C21.step_inv
#print axioms Fh.Props.C21.ext_last
#print axioms Fh.Props.C21.run_sound
#print axioms Fh.Props.C21.no_conn_serves_both_schemes
#print axioms Fh.Props.C21.C21_partial
