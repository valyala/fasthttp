/-
C02 — Unread request bodies never turn into requests.
Proved for fixed-length streamed bodies: whatever sequence of Read calls the handler makes (any sizes, any partial
deliveries by the connection), the stream never takes more than Content-Length bytes out of the connection, and the
connection is reused only if exactly Content-Length bytes were taken out — so the next head is read at the body's end.
A rejected expectation always closes.  Partial: chunked streams rely on the chunk reader (C34/C08) — `unread` is then
"terminating chunk and trailer not read yet" by definition — and non-streamed bodies are read in full before dispatch (C01).
-/
import FhVerif.Model.BodyStream
import FhVerif.Base.Run

namespace Fh.Props.C02
open Fh Fh.Model

def RS.wf (s : RS) : Prop := s.prefetched ≤ s.cl ∧ s.read ≤ s.cl

theorem readStep_cl (s : RS) (w g : Nat) : (s.readStep w g).1.cl = s.cl := by
  unfold RS.readStep; split
  · rfl
  · split <;> rfl

theorem readStep_wf (s : RS) (w g : Nat) (h : RS.wf s) : RS.wf (s.readStep w g).1 := by
  unfold RS.readStep
  split
  · exact h
  · split
    -- served from the prefetched bytes: read + n ≤ prefetched ≤ cl
    · exact ⟨h.1, show s.read + min _ _ ≤ s.cl by have := h.1; omega⟩
    -- from the connection: n ≤ cl - read
    · exact ⟨h.1, show s.read + min _ _ ≤ s.cl by have := h.2; omega⟩

theorem RS.run_eq_foldl (s : RS) (rs : List (Nat × Nat)) :
    s.run rs = rs.foldl (fun s r => (s.readStep r.1 r.2).1) s := by
  induction rs generalizing s with
  | nil => rfl
  | cons r rest ih => exact ih _

theorem run_wf (rs : List (Nat × Nat)) (s : RS) (h : RS.wf s) : RS.wf (s.run rs) ∧ (s.run rs).cl = s.cl := by
  rw [RS.run_eq_foldl]
  exact foldl_inv (P := fun t => RS.wf t ∧ t.cl = s.cl)
    (fun t r ht => ⟨readStep_wf t r.1 r.2 ht.1, (readStep_cl t r.1 r.2).trans ht.2⟩) rs ⟨h, rfl⟩

theorem consumed_of_read {s : RS} (h : RS.wf s) (hu : s.unread = false) : s.connConsumed = s.cl :=
  Nat.le_antisymm (Nat.max_le.2 h) (Nat.le_of_not_lt (of_decide_eq_false hu))

/-- the stream never takes body bytes beyond Content-Length out of the connection -/
theorem never_over_reads (s : RS) (h : RS.wf s) (rs : List (Nat × Nat)) : (s.run rs).connConsumed ≤ s.cl := by
  obtain ⟨hw, hcl⟩ := run_wf rs s h
  exact hcl ▸ Nat.max_le.2 hw

/-- C02: for every handler behaviour, if the connection is kept (stream not `unread`) then exactly the framed body
    was taken out of the connection: the next request is read at the end of this one's body. -/
theorem next_dispatch_at_body_end (s : RS) (h : RS.wf s) (rs : List (Nat × Nat))
    (hkeep : (s.run rs).unread = false) : (s.run rs).connConsumed = (s.run rs).cl :=
  consumed_of_read (run_wf rs s h).1 hkeep

-- a 20000-byte body with 8192 prefetched, handler reads 100 bytes: unread, so the connection is closed
example : (RS.run ⟨20000, 8192, 0⟩ [(100, 100)]).unread = true := by decide
example : (RS.run ⟨5000, 5000, 0⟩ []).unread = false ∧ RS.wf ⟨5000, 5000, 0⟩ := ⟨by decide, by unfold RS.wf; decide⟩

/-! ### handlers that drop the stream (Request.Body() on a broken body, ResetBody, SetBody) -/

/-- once the stream is detached, either it was completely read when it was dropped or the drop was recorded -/
def HSInv (s : HS) : Prop := RS.wf s.rs ∧ (s.attached = false → s.droppedUnread = false → s.rs.unread = false)

theorem hs_step_inv (s : HS) (a : HAct) (h : HSInv s) : HSInv (s.step a) ∧ (s.step a).rs.cl = s.rs.cl := by
  obtain ⟨hw, hd⟩ := h
  cases ha : s.attached with
  | false =>
    -- a detached stream is not touched any more
    have : s.step a = s := by cases a <;> exact if_neg (ha ▸ Bool.false_ne_true)
    rw [this]; exact ⟨⟨hw, hd⟩, rfl⟩
  | true =>
    cases a with
    | read w g =>
      rw [show s.step (.read w g) = _ from if_pos ha]
      exact ⟨⟨readStep_wf s.rs w g hw, fun hna => nomatch ha.symm.trans hna⟩, readStep_cl s.rs w g⟩
    | drop =>
      rw [show s.step .drop = _ from if_pos ha]
      exact ⟨⟨hw, fun _ hdu => (Bool.or_eq_false_iff.1 hdu).2⟩, rfl⟩

theorem HS.run_eq_foldl (s : HS) (as : List HAct) : s.run as = as.foldl HS.step s := by
  induction as generalizing s with
  | nil => rfl
  | cons a rest ih => exact ih _

theorem hs_run_inv (as : List HAct) (s : HS) (h : HSInv s) : HSInv (s.run as) ∧ (s.run as).rs.cl = s.rs.cl := by
  rw [HS.run_eq_foldl]
  exact foldl_inv (P := fun t => HSInv t ∧ t.rs.cl = s.rs.cl)
    (fun t a ht => ⟨(hs_step_inv t a ht.1).1, (hs_step_inv t a ht.1).2.trans ht.2⟩) as ⟨h, rfl⟩

/-- C02, handlers that may also drop the stream at any point: for every sequence of reads and drops, if the server
    keeps the connection then exactly Content-Length body bytes were taken out of it -/
theorem next_dispatch_at_body_end_with_drops (rs : RS) (h : RS.wf rs) (as : List HAct)
    (hkeep : (HS.run ⟨rs, true, false⟩ as).keep = true) :
    (HS.run ⟨rs, true, false⟩ as).rs.connConsumed = rs.cl := by
  have hi := hs_run_inv as ⟨rs, true, false⟩ ⟨h, nofun⟩
  generalize HS.run ⟨rs, true, false⟩ as = t at hi hkeep
  obtain ⟨⟨hw, hd⟩, hcl⟩ := hi
  have hun : t.rs.unread = false := by
    unfold HS.keep at hkeep
    cases hat : t.attached <;> cases hdu : t.droppedUnread <;> simp_all
  exact (consumed_of_read hw hun).trans hcl

theorem droppedUnread_sticky (as : List HAct) (s : HS) (h : s.droppedUnread = true) :
    (s.run as).droppedUnread = true := by
  rw [HS.run_eq_foldl]
  refine foldl_inv (P := fun t : HS => t.droppedUnread = true) (fun t a ht => ?_) as h
  cases a with
  | read w g =>
    show (t.readA w g).droppedUnread = true
    unfold HS.readA; split <;> exact ht
  | drop =>
    show t.dropA.droppedUnread = true
    unfold HS.dropA; split
    · exact Bool.or_eq_true_iff.2 (.inl ht)
    · exact ht

theorem dropped_unread_closes (rs : RS) (as : List HAct) (hun : rs.unread = true) :
    (HS.run ⟨rs, true, false⟩ (.drop :: as)).keep = false := by
  have h0 : (HS.step ⟨rs, true, false⟩ .drop).droppedUnread = true := by
    show (HS.dropA ⟨rs, true, false⟩).droppedUnread = true
    simp [HS.dropA, hun]
  have h1 : (HS.run ⟨rs, true, false⟩ (.drop :: as)).droppedUnread = true :=
    droppedUnread_sticky as _ h0
  unfold HS.keep; simp [h1]

-- dropped unread: closed;  read to the end, then dropped: kept
example : (HS.run ⟨⟨20000, 8192, 0⟩, true, false⟩ [.drop]).keep = false := by decide
example : (HS.run ⟨⟨100, 100, 0⟩, true, false⟩ [.read 100 100, .drop]).keep = true := by decide

/-! ### chunked streamed bodies: nothing is taken out of the connection after the body's end or after a framing error -/

theorem ChunkSt.run_eq_foldl (s : ChunkSt) (os : List COutcome) : s.run os = os.foldl ChunkSt.read s := by
  induction os generalizing s with
  | nil => rfl
  | cons o rest ih => exact ih _

theorem cs_absorbing (os : List COutcome) (s : ChunkSt) (h : s.phase ≠ .reading) : s.run os = s := by
  rw [ChunkSt.run_eq_foldl]
  refine foldl_inv (P := (· = s)) (fun t o ht => ?_) os rfl
  subst ht
  unfold ChunkSt.read
  cases hp : t.phase <;> first | rfl | exact absurd hp h

theorem cs_run_append (s : ChunkSt) (l1 l2 : List COutcome) : s.run (l1 ++ l2) = (s.run l1).run l2 := by
  simp only [ChunkSt.run_eq_foldl, List.foldl_append]

/-- C02 (chunked): whatever the handler reads after the stream has ended — or after it has failed on a malformed
    chunk — no further byte leaves the connection, so the bytes of the next request stay where they are -/
theorem chunked_reads_after_end_consume_nothing (before after : List COutcome) (h : (ChunkSt.run {} before).phase ≠ .reading) :
    (ChunkSt.run {} (before ++ after)).consumed = (ChunkSt.run {} before).consumed := by
  rw [cs_run_append, cs_absorbing after _ h]

/-- a stream that failed on a malformed chunk never counts as read: the connection is closed after the response -/
theorem malformed_chunk_stays_unread (before after : List COutcome) (h : (ChunkSt.run {} before).phase = .failed) :
    (ChunkSt.run {} (before ++ after)).unread = true := by
  rw [cs_run_append, cs_absorbing after _ (by rw [h]; nofun)]
  simp [ChunkSt.unread, h]

example : (ChunkSt.run {} [.data 3 5, .last 5, .data 3 4, .last 5]).consumed = 13 := by decide
example : (ChunkSt.run {} [.data 3 1, .malformed 2, .last 5]).unread = true := by decide

/-! ### Expect: 100-continue: after a rejected expectation the handler is not called and the connection closes -/

theorem rejected_expectation_closes (o : ExpectOutcome) (h : (expectDecision o).1 = false) : (expectDecision o).2 = true := by
  cases o <;> simp_all [expectDecision]

end Fh.Props.C02

/-! ### what the theorems of this file rest on -/
#print axioms Fh.Props.C02.readStep_cl
#print axioms Fh.Props.C02.readStep_wf
#print axioms Fh.Props.C02.RS.run_eq_foldl
#print axioms Fh.Props.C02.run_wf
#print axioms Fh.Props.C02.consumed_of_read
#print axioms Fh.Props.C02.never_over_reads
#print axioms Fh.Props.C02.next_dispatch_at_body_end
#print axioms Fh.Props.C02.hs_step_inv
#print axioms Fh.Props.C02.HS.run_eq_foldl
#print axioms Fh.Props.C02.hs_run_inv
#print axioms Fh.Props.C02.next_dispatch_at_body_end_with_drops
#print axioms Fh.Props.C02.droppedUnread_sticky
#print axioms Fh.Props.C02.dropped_unread_closes
#print axioms Fh.Props.C02.ChunkSt.run_eq_foldl
#print axioms Fh.Props.C02.cs_absorbing
#print axioms Fh.Props.C02.cs_run_append
#print axioms Fh.Props.C02.chunked_reads_after_end_consume_nothing
#print axioms Fh.Props.C02.malformed_chunk_stays_unread
#print axioms Fh.Props.C02.rejected_expectation_closes
