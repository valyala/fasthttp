/-
C38 — PipelineClient deadline calls return on time with bounded queues.

All theorems quantify over ARBITRARY event lists `evs` of Model/Pipeline.lean: any interleaving of DoDeadline / Do
callers, timers, the writer and reader goroutines, connection failures, worker teardown and restart, for any
MaxPendingRequests.
Time appears only as the events `timerFired w` / `deadlinePassed w` (DESIGN §4): "returns by its deadline" is stated as
"once the call's own timer has fired, its return is enabled and needs no event of any other actor".
Residue (not provable here): the scheduler runs the caller within the slack after its timer fired; the Go runtime
delivers the timer at the deadline; wall-clock cost of the caller's own straight-line code before its first select
(request copy, acquirePipelineConnChannels under chLock).
-/
import FhVerif.Proofs.Pipeline
import FhVerif.Gen.PipeShape

namespace Fh.Props.C38
open Fh.Model.PL Fh.Proofs.Pipeline

theorem step_max {s s' : State} {e : Event} (hs : step s e = some s') : s'.max = s.max :=
  (step_inv hs).1

theorem run_max (evs : List Event) (s s' : State) (hr : run s evs = some s') : s'.max = s.max :=
  Fh.Iter.inv (P := fun t => t.max = s.max) (fun _ _ _ h hs => (step_max hs).trans h) rfl (run_eq_iter s evs ▸ hr)

/-- A DoDeadline call is always at a point where its own timer is selectable (blocked sending into chW, or waiting
    for the answer) or has returned; and once its timer has fired, its return with ErrTimeout is enabled in the
    current state — no event of the writer, the reader, the server or another caller is needed. -/
theorem deadline_return_enabled_by_own_timer (m : Nat) (evs : List Event) (s : State) (h : run (init m) evs = some s)
    (w : Nat) (x : Work) (hget : s.works[w]? = some x) (hd : x.deadline = true) :
    (x.pc = .sending ∨ x.pc = .waiting ∨ ∃ r, x.pc = .returned r) ∧
    (x.timerFired = true → x.pc = .sending ∨ x.pc = .waiting → (step s (.returnTimeout w)).isSome) := by
  have hi := (reach h).2.1
  have hp := (hi.hWork w x hget).ddl hd
  constructor
  · cases hpc : x.pc with
    | sending => exact .inl rfl
    | waiting => exact .inr (.inl rfl)
    | returned r => exact .inr (.inr ⟨r, rfl⟩)
    | doPop => exact absurd hpc hp.1
    | doRetry => exact absurd hpc hp.2
  · intro hf hpc
    rcases hpc with hpc | hpc <;> simp [step, hget, hd, hf, hpc]

/-- A call that fails with ErrPipelineOverflow never has its request transmitted: an item answered with
    ErrPipelineOverflow (the oldest item replaced by `Do`, or `Do`'s own item that found no room) was never handed
    to the connection writer — neither before (it was still in chW, or never enqueued) nor afterwards (it is in no
    queue any more). -/
theorem overflow_never_transmitted (m : Nat) (evs : List Event) (s : State) (h : run (init m) evs = some s)
    (w : Nat) (x : Work) (hget : s.works[w]? = some x) (hov : x.done = some .overflow ∨ x.pc = .returned .overflow) :
    x.written = false ∧ cnt s w = 0 := by
  have hi := (reach h).2.1
  have hp := hi.hWork w x hget
  have hd : x.done = some .overflow := hov.elim id fun h1 => (hp.ret _ h1).elim nofun id
  exact ⟨hp.ovf hd, hp.ans (hd ▸ nofun)⟩

/-- the queues are bounded: PendingRequests() = len(chR) + len(chW) ≤ 2·MaxPendingRequests -/
theorem pending_le_2max (m : Nat) (evs : List Event) (s : State) (h : run (init m) evs = some s) :
    s.chW.length ≤ m ∧ s.chR.length ≤ m ∧ pending s ≤ 2 * m := by
  have hi := (reach h).2.1
  have hm : s.max = m := (reach h).1
  have h1 := hm ▸ hi.hCapW
  have h2 := hm ▸ hi.hCapR
  exact ⟨h1, h2, by unfold pending; omega⟩

/-- FIFO matching on a connection: the items whose responses were read are, in order, exactly the first items written
    on that connection — the k-th response goes to the k-th request written, also when earlier calls have timed out
    (their items still consume their responses) or were answered without transmission. -/
theorem fifo_matching (m : Nat) (evs : List Event) (s : State) (h : run (init m) evs = some s) :
    (∃ rest, s.wire = s.answered ++ rest) ∧ ∀ (k w : Nat), s.answered[k]? = some w → s.wire[k]? = some w := by
  have hf := (reach h).2.2
  refine ⟨hf.pre, fun k w hk => ?_⟩
  rcases hf.pre with ⟨rest, hrest⟩
  rw [hrest, List.getElem?_append_left (List.getElem?_eq_some_iff.mp hk).1]
  exact hk

/-- every work item is answered at most once (a second `w.done <-` would block its sender forever), is in at most
    one place of the pipeline, and an answered item is in none -/
theorem answered_once (m : Nat) (evs : List Event) (s : State) (h : run (init m) evs = some s) :
    s.dbl = false ∧ (∀ w, cnt s w ≤ 1) ∧ ∀ w x, s.works[w]? = some x → x.done ≠ none → cnt s w = 0 := by
  have hi := (reach h).2.1
  exact ⟨hi.hDbl, hi.hLoc, fun w x hget hd => (hi.hWork w x hget).ans hd⟩

/-! ### the writer and the reader of client.go have the shape the model assumes

`fifo_matching` (and C04's `pipeline_fifo`) rests on `FInv.eq`: every request written on a connection is, in order,
in `answered`, with the reader, in chR, or with the writer on its way into chR.  In the model the writer has no step
between "written" (`writerWrite`) and "in chR" (`writerPush`) that drops the item while the connection lives on, and a
failed read ends the reader.
`fhextract` recomputes the control skeletons of the two goroutine bodies on every run (Gen/PipeShape.lean); these
theorems pin the stretches that matter: a `continue` (or any other way back to the loop head) between `w.req.Write`
and `chR <- w`, or a reader that goes on after a failed read, stops the proof. -/

/-- written ⇒ queued, or the writer returns (and the worker drops the connection): between `w.req.Write(bw)` and the
    first `chR <- w` the writer can only fail (`w.done <- …; return err`) -/
theorem writer_written_implies_queued :
    Gen.pipeShape_writer_writeToPush =
      ["for true | if err = w.req.Write(bw); err != nil => send w.done",
       "for true | if err = w.req.Write(bw); err != nil => return",
       "for true => label againChR"] ∧
    Gen.pipeShape_writer_actionsAfterWrite =
      ["send w.done", "return", "label againChR", "select-send chR", "select-send chR", "send w.done", "return",
       "bw.Flush", "send w.done", "return", "goto againChR"] := ⟨rfl, rfl⟩

/-- a failed `w.resp.Read` (connection error or ReadTimeout) answers the item and ends the reader -/
theorem reader_stops_after_failed_read :
    Gen.pipeShape_reader_afterRead =
      ["for true | if err != nil => send w.done", "for true | if err != nil => return", "for true => send w.done"] := rfl

/-- chR is drained only after BOTH goroutines have stopped (the model's `drainOne` needs writer and reader `exited`):
    in `worker` the loop that fails the items still waiting in chR comes after the join of the reader AND the writer on
    either path; the reader itself — deferred code included — takes items out of chR only to read their responses.
    (A drain on the reader's exit would miss what the still-running writer queues afterwards: the item would survive
    the reconnect and be matched with the first response of the next connection.) -/
theorem chR_drained_after_both_stopped :
    Gen.pipeJoins_worker =
      ["recv doneW", "case err = <-doneW => conn.Close", "case err = <-doneW => close stopR", "case err = <-doneW => recv doneR",
       "recv doneR", "case err = <-doneR => conn.Close", "case err = <-doneR => close stopW", "case err = <-doneR => recv doneW",
       "for len(chs.chR) > 0 => recv chs.chR", "for len(chs.chR) > 0 => send w.done"] ∧
    Gen.pipeJoins_reader = ["for true => recv chR", "for true | default => recv chR"] := ⟨rfl, rfl⟩

/-- MaxPendingRequests = 1, stalled server: item 0 written and waiting for its response, item 1 written and held by
    the writer (chR full), item 2 in chW; `Do` number 3 replaces item 2, which is answered with overflow, unwritten -/
def overflowRun : List Event := [.callDo, .writerTake, .writerBegin, .writerWrite, .writerPush, .readerTake, .callDo, .writerTake, .writerBegin, .writerWrite,
    .writerPush, .callDo, .writerTake, .writerBegin, .writerWrite, .callDo, .callDo, .doPop 4, .doRetry 4]
example : (run (init 1) overflowRun).map (fun s => (s.chW, s.chR, s.writer, s.reader, s.wire)) =
    some ([4], [1], .push 2, .reading 0, [0, 1, 2]) := by decide +kernel
example : (run (init 1) overflowRun).map (fun s => (s.works.map (·.done), s.works.map (·.written))) =
    some ([none, none, none, some .overflow, none], [true, true, true, false, false]) := by decide +kernel

/-- a DoDeadline call whose timer fires while it waits returns ErrTimeout at once; its item still consumes its response -/
example : (run (init 2) [.callDeadline, .writerTake, .writerBegin, .writerWrite, .writerPush, .readerTake, .timerFired 0, .returnTimeout 0,
    .callDo, .writerTake, .writerBegin, .writerWrite, .writerPush, .readerOk, .readerTake, .readerOk, .returnDone 1]).map
    (fun s => (s.works.map (·.pc), s.wire, s.answered)) =
    some ([.returned .timeout, .returned .ok], [0, 1], [0, 1]) := by decide +kernel

/-- deadline-expired work is answered with ErrTimeout without transmission -/
example : (run (init 2) [.callDeadline, .deadlinePassed 0, .writerTake, .writerExpire]).map
    (fun s => (s.wire, s.works.map (·.done), s.works.map (·.written))) = some ([], [some .timeout], [false]) := by decide +kernel

/-- reader failure, teardown, drain and restart -/
example : (run (init 2) [.callDo, .callDo, .writerTake, .writerBegin, .writerWrite, .writerPush, .writerTake, .writerBegin, .writerWrite, .writerPush,
    .readerTake, .readerFail, .writerStop, .drainOne, .restart]).map
    (fun s => (s.works.map (·.done), s.wire, s.writer, s.reader)) =
    some ([some .connErr, some .stopped], [], .idle, .idle) := by decide +kernel

end Fh.Props.C38

/-! ### what the theorems of this file rest on -/
#print axioms Fh.Props.C38.step_max
#print axioms Fh.Props.C38.run_max
#print axioms Fh.Props.C38.deadline_return_enabled_by_own_timer
#print axioms Fh.Props.C38.overflow_never_transmitted
#print axioms Fh.Props.C38.pending_le_2max
#print axioms Fh.Props.C38.fifo_matching
#print axioms Fh.Props.C38.answered_once
#print axioms Fh.Props.C38.writer_written_implies_queued
#print axioms Fh.Props.C38.reader_stops_after_failed_read
#print axioms Fh.Props.C38.chR_drained_after_both_stopped
