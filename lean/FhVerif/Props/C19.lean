/-
C19 — Client retries are bounded and respect idempotency.
Model: Model/Retry.lean, the loop of HostClient.Do run over a fault script.  All theorems quantify over every fault script
(any faults, any durations, any length), every configuration and every behaviour of the RetryIf / RetryIfErr /
RetryIfErrUpstream callbacks.  `Gen.defaultMaxIdemponentCallAttempts` is regenerated from client.go on every run.
-/
import FhVerif.Proofs.Retry

namespace Fh.Props.C19
open Fh Fh.Model.Retry Fh.Proofs.Retry

theorem defaultMaxAttempts_eq_5 : Gen.defaultMaxIdemponentCallAttempts = 5 := by decide +kernel

theorem effMax_pos (cfg : Cfg) : 0 < effMax cfg := by
  unfold effMax
  split
  · decide
  · omega

/-- the attempt limit in force when MaxIdemponentCallAttempts is not positive: 5 -/
theorem effMax_default (cfg : Cfg) (h : cfg.maxAttempts ≤ 0) : effMax cfg = 5 := by
  unfold effMax; simp [h]; decide

/-- For any fault script HostClient.Do makes at most MaxIdemponentCallAttempts attempts (5 by default), hence
    transmits the request at most that many times. -/
theorem transmissions_le_maxAttempts (cfg : Cfg) (script : List (Fault × Dur)) (t0 : Nat) :
    (run cfg script t0).transmissions ≤ (run cfg script t0).attempts.length ∧
    (run cfg script t0).attempts.length ≤ effMax cfg :=
  ⟨List.length_filter_le _ _, (run_attempts cfg script t0).length_le (effMax_pos cfg)⟩

/-! ### what the peer sees

The model counts ATTEMPTS (calls of `HostClient.do` → `RoundTrip`).  That this bounds what is put on the wire rests on
one assumption about `RoundTrip`, made explicit here as a hypothesis: one call writes the request to a connection at
most once — and not at all when it fails before writing — whether the connection was freshly dialled or taken from the
idle pool.  `wire a` is the number of request heads the peer receives because of attempt `a`.  The harness ties the
hypothesis on every case: heads counted by the peer (over all connections, fresh and reused) ≤ transmitting attempts
of the model (`one-transmission-per-attempt`). -/

def OneWirePerAttempt (wire : Attempt → Nat) (t : Trace) : Prop :=
  ∀ a ∈ t.attempts, wire a ≤ (if a.fault.transmits then 1 else 0)

/-- request heads seen by the peer for one `Do` call -/
def wireTotal (wire : Attempt → Nat) (t : Trace) : Nat := (t.attempts.map wire).sum

theorem sum_le_length (l : List Attempt) (wire : Attempt → Nat)
    (h : ∀ a ∈ l, wire a ≤ (if a.fault.transmits then 1 else 0)) :
    (l.map wire).sum ≤ (l.filter fun a => a.fault.transmits).length := by
  induction l with
  | nil => simp
  | cons x xs ih =>
    have hx := h x (List.mem_cons_self)
    have hxs := ih (fun a ha => h a (List.mem_cons_of_mem _ ha))
    simp only [List.map_cons, List.sum_cons, List.filter_cons]
    by_cases ht : x.fault.transmits = true
    · simp only [ht, if_true] at hx ⊢
      simp only [List.length_cons]; omega
    · simp only [ht, Bool.false_eq_true, if_false] at hx ⊢
      omega

theorem wireTotal_le_attempts (wire : Attempt → Nat) (t : Trace) (hw : OneWirePerAttempt wire t) :
    wireTotal wire t ≤ t.attempts.length :=
  Nat.le_trans (sum_le_length t.attempts wire hw) (List.length_filter_le _ _)

/-- Under that hypothesis the peer receives the request at most MaxIdemponentCallAttempts times (5 by default) -/
theorem wire_transmissions_le_maxAttempts (cfg : Cfg) (script : List (Fault × Dur)) (t0 : Nat) (wire : Attempt → Nat)
    (hw : OneWirePerAttempt wire (run cfg script t0)) :
    wireTotal wire (run cfg script t0) ≤ effMax cfg :=
  Nat.le_trans (wireTotal_le_attempts wire _ hw) (transmissions_le_maxAttempts cfg script t0).2

/-- an attempt is followed by another only if the callback switch — RetryIfErrUpstream, RetryIfErr, RetryIf or, with
    none of them set, isIdempotent — answered retry for it -/
theorem second_attempt_needs_callback_or_idempotent (cfg : Cfg) (script : List (Fault × Dur)) (t0 : Nat)
    (i : Nat) (hl : i + 1 < (run cfg script t0).attempts.length) : (callback cfg (i + 1)).2 = true :=
  have ⟨_, _, _, _, _, h⟩ := run_nonlast cfg script t0 i hl
  h

/-- A request whose method is not GET, HEAD or PUT is attempted at most once when no RetryIf / RetryIfErr /
    RetryIfErrUpstream callback is configured. -/
theorem non_idempotent_at_most_once_without_callback (cfg : Cfg) (script : List (Fault × Dur)) (t0 : Nat)
    (h1 : cfg.retryIf = none) (h2 : cfg.retryIfErr = none) (h3 : cfg.retryIfErrUpstream = none)
    (hm : cfg.idempotent = false) : (run cfg script t0).attempts.length ≤ 1 := by
  refine Nat.le_of_not_lt fun hl => ?_
  have := second_attempt_needs_callback_or_idempotent cfg script t0 0 hl
  rw [callback, h1, h2, h3, hm] at this
  cases this

/-- … and, under the one-write-per-RoundTrip hypothesis, the peer receives such a request at most once -/
theorem wire_non_idempotent_at_most_once (cfg : Cfg) (script : List (Fault × Dur)) (t0 : Nat) (wire : Attempt → Nat)
    (hw : OneWirePerAttempt wire (run cfg script t0))
    (h1 : cfg.retryIf = none) (h2 : cfg.retryIfErr = none) (h3 : cfg.retryIfErrUpstream = none)
    (hm : cfg.idempotent = false) : wireTotal wire (run cfg script t0) ≤ 1 :=
  Nat.le_trans (wireTotal_le_attempts wire _ hw)
    (non_idempotent_at_most_once_without_callback cfg script t0 h1 h2 h3 hm)

/-- A request with a body stream is never retried. -/
theorem bodystream_never_retried (cfg : Cfg) (script : List (Fault × Dur)) (t0 : Nat)
    (hb : cfg.hasBodyStream = true) : (run cfg script t0).attempts.length ≤ 1 := by
  refine Nat.le_of_not_lt fun hl => ?_
  have ⟨_, _, _, _, h, _⟩ := run_nonlast cfg script t0 0 hl
  rw [hb] at h; cases h

theorem wire_bodystream_at_most_once (cfg : Cfg) (script : List (Fault × Dur)) (t0 : Nat) (wire : Attempt → Nat)
    (hw : OneWirePerAttempt wire (run cfg script t0)) (hb : cfg.hasBodyStream = true) :
    wireTotal wire (run cfg script t0) ≤ 1 :=
  Nat.le_trans (wireTotal_le_attempts wire _ hw) (bodystream_never_retried cfg script t0 hb)

/-- An attempt is followed by another one only if RoundTrip reported `retry = true`. -/
theorem only_retryable_faults_are_retried (cfg : Cfg) (script : List (Fault × Dur)) (t0 : Nat) (i : Nat) (a : Attempt)
    (ha : (run cfg script t0).attempts[i]? = some a) (hr : retryFlag a.fault = false) :
    i + 1 = (run cfg script t0).attempts.length := by
  have hi : i < (run cfg script t0).attempts.length := (List.getElem?_eq_some_iff.mp ha).1
  refine Nat.le_antisymm hi (Nat.le_of_not_lt fun hl => ?_)
  have ⟨b, hb, _, h, _⟩ := run_nonlast cfg script t0 i hl
  cases ha.symm.trans hb
  rw [hr] at h; cases h

/-- A response that exceeded MaxResponseBodySize (ErrBodyTooLarge) is never retried: it is the last attempt,
    whatever the method, the attempt limit and the callbacks. -/
theorem tooLarge_never_retried (cfg : Cfg) (script : List (Fault × Dur)) (t0 : Nat) (i : Nat) (a : Attempt)
    (ha : (run cfg script t0).attempts[i]? = some a) (hf : a.fault = .tooLarge) :
    i + 1 = (run cfg script t0).attempts.length :=
  only_retryable_faults_are_retried cfg script t0 i a ha (by rw [hf]; rfl)

/-- the same for a failed connection acquisition (dial error, no free connection): nothing was sent, no retry -/
theorem acquireErr_never_retried (cfg : Cfg) (script : List (Fault × Dur)) (t0 : Nat) (i : Nat) (a : Attempt)
    (ha : (run cfg script t0).attempts[i]? = some a) (hf : a.fault = .acquireErr) :
    i + 1 = (run cfg script t0).attempts.length :=
  only_retryable_faults_are_retried cfg script t0 i a ha (by rw [hf]; rfl)

/-- With a request timeout, every attempt starts strictly before the deadline in force at that moment. -/
theorem attempt_starts_before_its_deadline (cfg : Cfg) (script : List (Fault × Dur)) (t0 : Nat)
    (ht : cfg.timeout > 0) : ∀ a ∈ (run cfg script t0).attempts, a.start < a.deadline :=
  (run_attempts cfg script t0).start_lt_deadline ht

/-- Only RetryIfErr / RetryIfErrUpstream can ask for the timeout to be reset. -/
theorem reset_only_from_retryIfErr (cfg : Cfg) (h2 : cfg.retryIfErr = none) (h3 : cfg.retryIfErrUpstream = none) :
    ∀ k, (callback cfg k).1 = false := by
  intro k
  unfold callback
  rw [h2, h3]
  cases cfg.retryIf <;> rfl

/-- Do never keeps retrying past the request timeout unless a callback asked for the timeout to be reset:
    if no callback answer has resetTimeout = true, every attempt starts before `t0 + timeout`. -/
theorem no_attempt_after_deadline_unless_reset (cfg : Cfg) (script : List (Fault × Dur)) (t0 : Nat)
    (ht : cfg.timeout > 0) (hnr : ∀ k, (callback cfg k).1 = false) :
    ∀ a ∈ (run cfg script t0).attempts, a.start < t0 + cfg.timeout := by
  intro a ha
  have h1 := (run_attempts cfg script t0).start_lt_deadline ht a ha
  have h2 := (run_attempts cfg script t0).deadline_const hnr a ha
  omega

/-! ### non-vacuity -/

private def base : Cfg := ⟨0, true, false, none, none, none, 0⟩
private def eof : Fault × Dur := (.readEOF, .ns 1)

/-- GET against a server that always closes: exactly 5 attempts, then ErrConnectionClosed -/
example : ((run base (List.replicate 9 eof) 0).attempts.length, (run base (List.replicate 9 eof) 0).err) = (5, .closed) := by decide +kernel
/-- POST: one attempt -/
example : (run { base with idempotent := false } (List.replicate 9 eof) 0).attempts.length = 1 := by decide +kernel
/-- POST with RetryIf = always: up to the limit 3 -/
example : (run { base with idempotent := false, maxAttempts := 3, retryIf := some fun _ => true } (List.replicate 9 eof) 0).attempts.length = 3 := by decide +kernel
/-- RetryIfErrUpstream takes precedence over RetryIfErr -/
example : (run { base with retryIfErr := some fun _ => (false, true), retryIfErrUpstream := some fun _ => (false, false) }
    (List.replicate 9 eof) 0).attempts.length = 1 := by decide +kernel
/-- body stream: one attempt; oversized response: no retry even for GET with RetryIf = always -/
example : (run { base with hasBodyStream := true } (List.replicate 9 eof) 0).attempts.length = 1 := by decide +kernel
example : (run { base with retryIf := some fun _ => true } [eof, (.tooLarge, .ns 1), eof] 0).attempts.map (·.fault)
    = [.readEOF, .tooLarge] := by decide +kernel
/-- the hypothesis is satisfiable and the bound is met: one head per transmitting attempt gives exactly 5 -/
example : OneWirePerAttempt (fun a => if a.fault.transmits then 1 else 0) (run base (List.replicate 9 eof) 0) ∧
    wireTotal (fun a => if a.fault.transmits then 1 else 0) (run base (List.replicate 9 eof) 0) = 5 :=
  ⟨fun _ _ => Nat.le_refl _, by decide⟩
/-- timeout 10: attempts of 4 time units each start at 0, 4, 8; then ErrTimeout at the loop head -/
example : ((run { base with timeout := 10 } (List.replicate 9 (.readEOF, .ns 4)) 0).attempts.map (·.start),
    (run { base with timeout := 10 } (List.replicate 9 (.readEOF, .ns 4)) 0).err) = ([0, 4, 8], .timeout) := by decide +kernel
/-- with resetTimeout the deadline moves: all 5 attempts happen -/
example : (run { base with timeout := 10, retryIfErr := some fun _ => (true, true) } (List.replicate 9 (.readEOF, .ns 4)) 0).attempts.map (·.start)
    = [0, 4, 8, 12, 16] := by decide +kernel
/-- a hanging peer: the attempt lasts until the deadline, the next loop head reports ErrTimeout -/
example : ((run { base with timeout := 10 } [(.readTimeout, .untilDeadline), eof] 0).attempts.length,
    (run { base with timeout := 10 } [(.readTimeout, .untilDeadline), eof] 0).err) = (1, .timeout) := by decide +kernel

end Fh.Props.C19

/-! ### what the theorems of this file rest on -/
#print axioms Fh.Props.C19.defaultMaxAttempts_eq_5
#print axioms Fh.Props.C19.effMax_pos
#print axioms Fh.Props.C19.effMax_default
#print axioms Fh.Props.C19.transmissions_le_maxAttempts
#print axioms Fh.Props.C19.sum_le_length
#print axioms Fh.Props.C19.wireTotal_le_attempts
#print axioms Fh.Props.C19.wire_transmissions_le_maxAttempts
#print axioms Fh.Props.C19.second_attempt_needs_callback_or_idempotent
#print axioms Fh.Props.C19.non_idempotent_at_most_once_without_callback
#print axioms Fh.Props.C19.wire_non_idempotent_at_most_once
#print axioms Fh.Props.C19.bodystream_never_retried
#print axioms Fh.Props.C19.wire_bodystream_at_most_once
#print axioms Fh.Props.C19.only_retryable_faults_are_retried
#print axioms Fh.Props.C19.tooLarge_never_retried
#print axioms Fh.Props.C19.acquireErr_never_retried
#print axioms Fh.Props.C19.attempt_starts_before_its_deadline
#print axioms Fh.Props.C19.reset_only_from_retryIfErr
#print axioms Fh.Props.C19.no_attempt_after_deadline_unless_reset
