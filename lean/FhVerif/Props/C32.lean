/-
C32 — Byte-class tables and canonicalisation match their definitions.  The tables come from Gen/Tables.lean,
regenerated from /repo on every run, so these theorems are re-checked by the kernel against the current
bytesconv_table.go.
-/
import FhVerif.Proofs.ByteClass
import FhVerif.Base.OfString

namespace Fh.Props.C32
open Fh Fh.Model Fh.Proofs.ByteClass

/-! ### the eight tables: each is the tabulation of its predicate (one kernel pass over the table) -/

theorem hex2int_tab : Gen.hex2intTable.map UInt8.toNat = (List.range 256).map Spec.hexVal := by decide +kernel
theorem toLower_tab : Gen.toLowerTable.map UInt8.toNat = (List.range 256).map Spec.lowerOf := by decide +kernel
theorem toUpper_tab : Gen.toUpperTable.map UInt8.toNat = (List.range 256).map Spec.upperOf := by decide +kernel
theorem quotedArg_tab :
    Gen.quotedArgShouldEscapeTable.map (· != 0) = (List.range 256).map Spec.argShouldEscape := by decide +kernel
theorem quotedPath_tab :
    Gen.quotedPathShouldEscapeTable.map (· != 0) = (List.range 256).map Spec.pathShouldEscape := by decide +kernel
/-- 128 entries; `validHeaderFieldByte` guards the lookup by `c < 128` -/
theorem headerField_tab : Gen.validHeaderFieldByteTable.map (· == 1) = (List.range 128).map Spec.tchar := by
  decide +kernel
theorem headerValue_tab :
    Gen.validHeaderValueByteTable.map (· == 1) = (List.range 256).map Spec.fieldValueByte := by decide +kernel
theorem method_tab : Gen.validMethodValueByteTable.map (· != 0) = (List.range 256).map Spec.tchar := by
  decide +kernel

theorem table_lengths :
    Gen.hex2intTable.length = 256 ∧ Gen.toLowerTable.length = 256 ∧ Gen.toUpperTable.length = 256 ∧
    Gen.quotedArgShouldEscapeTable.length = 256 ∧ Gen.quotedPathShouldEscapeTable.length = 256 ∧
    Gen.validHeaderFieldByteTable.length = 128 ∧ Gen.validHeaderValueByteTable.length = 256 ∧
    Gen.validMethodValueByteTable.length = 256 :=
  ⟨tabulates_length hex2int_tab, tabulates_length toLower_tab, tabulates_length toUpper_tab,
   tabulates_length quotedArg_tab, tabulates_length quotedPath_tab, tabulates_length headerField_tab,
   tabulates_length headerValue_tab, tabulates_length method_tab⟩

theorem hex2int_eq (c : UInt8) : (hex2int c).toNat = Spec.hexVal c.toNat := tbl_tabulates hex2int_tab c c.toNat_lt
theorem toLower_eq (c : UInt8) : (toLower c).toNat = Spec.lowerOf c.toNat := tbl_tabulates toLower_tab c c.toNat_lt
theorem toUpper_eq (c : UInt8) : (toUpper c).toNat = Spec.upperOf c.toNat := tbl_tabulates toUpper_tab c c.toNat_lt
theorem quotedArg_eq (c : UInt8) : quotedArgShouldEscape c = Spec.argShouldEscape c.toNat :=
  tbl_tabulates quotedArg_tab c c.toNat_lt
theorem quotedPath_eq (c : UInt8) : quotedPathShouldEscape c = Spec.pathShouldEscape c.toNat :=
  tbl_tabulates quotedPath_tab c c.toNat_lt
theorem headerValue_eq (c : UInt8) : validHeaderValueByte c = Spec.fieldValueByte c.toNat :=
  tbl_tabulates headerValue_tab c c.toNat_lt
theorem method_eq (c : UInt8) : validMethodValueByte c = Spec.tchar c.toNat := tbl_tabulates method_tab c c.toNat_lt

theorem tchar_lt {n : Nat} (h : Spec.tchar n = true) : n < 128 := by
  simp only [Spec.tchar, Spec.isAlpha, Spec.isUpper, Spec.isLower, Spec.isDigit, Bool.or_eq_true, Bool.and_eq_true,
    decide_eq_true_eq, beq_iff_eq] at h
  omega

theorem headerField_eq (c : UInt8) : validHeaderFieldByte c = Spec.tchar c.toNat := by
  unfold validHeaderFieldByte
  by_cases hc : c.toNat < 128
  · rw [tbl_tabulates headerField_tab c hc, decide_eq_true (UInt8.lt_iff_toNat_lt.2 hc), Bool.true_and]
  · rw [decide_eq_false (mt UInt8.lt_iff_toNat_lt.1 hc), Bool.false_and]
    exact (Bool.eq_false_iff.2 (mt tchar_lt hc)).symm

theorem hex2int_ofNat (c : UInt8) : hex2int c = UInt8.ofNat (Spec.hexVal c.toNat) := eq_ofNat_of_toNat_eq (hex2int_eq c)
theorem toLower_ofNat (c : UInt8) : toLower c = UInt8.ofNat (Spec.lowerOf c.toNat) := eq_ofNat_of_toNat_eq (toLower_eq c)
theorem toUpper_ofNat (c : UInt8) : toUpper c = UInt8.ofNat (Spec.upperOf c.toNat) := eq_ofNat_of_toNat_eq (toUpper_eq c)

theorem removeNewLines_token (b : Bytes) (h : b.all (fun c => Spec.tchar c.toNat) = true) :
    removeNewLines b = b := by
  refine (List.map_congr_left fun c hc => if_neg ?_).trans (List.map_id b)
  rw [Bool.or_eq_true, beq_iff_eq, beq_iff_eq]
  rintro (rfl | rfl) <;> exact absurd (List.all_eq_true.1 h _ hc) (by decide)

theorem toUpper_beq_dash (c : UInt8) : (toUpper c == 45) = (c == 45) := by
  have : Spec.upperOf c.toNat = 45 ↔ c.toNat = 45 := by
    simp only [Spec.upperOf, Spec.isLower, Bool.and_eq_true, decide_eq_true_eq]; split <;> omega
  rw [Bool.eq_iff_iff, beq_iff_eq, beq_iff_eq, ← UInt8.toNat_inj, ← UInt8.toNat_inj, toUpper_eq]; exact this

/-! `toLower` moves 'A'..'Z' onto 'a'..'z' and fixes every other byte: it is idempotent and neither produces nor removes
a byte that is not a letter. -/

theorem toLower_toNat (c : UInt8) :
    (toLower c).toNat = if 65 ≤ c.toNat ∧ c.toNat ≤ 90 then c.toNat + 32 else c.toNat := by
  simp only [toLower_eq, Spec.lowerOf, Spec.isUpper, Bool.and_eq_true, decide_eq_true_eq]

theorem toLower_toLower (c : UInt8) : toLower (toLower c) = toLower c := by
  rw [← UInt8.toNat_inj, toLower_toNat (toLower c), toLower_toNat]
  by_cases h : 65 ≤ c.toNat ∧ c.toNat ≤ 90
  · rw [if_pos h, if_neg (by omega)]
  · rw [if_neg h, if_neg h]

theorem toLower_beq_nonletter (c k : UInt8) (hk : ¬(65 ≤ k.toNat ∧ k.toNat ≤ 122)) : (toLower c == k) = (c == k) := by
  rw [Bool.eq_iff_iff, beq_iff_eq, beq_iff_eq, ← UInt8.toNat_inj, ← UInt8.toNat_inj, toLower_toNat]
  split <;> omega

theorem lowercase_idem (b : Bytes) : lowercaseBytes (lowercaseBytes b) = lowercaseBytes b := by
  unfold lowercaseBytes
  rw [List.map_map]
  exact List.map_congr_left fun c _ => toLower_toLower c

theorem toLower_beq_dash (c : UInt8) : (toLower c == 45) = (c == 45) := toLower_beq_nonletter c 45 (by decide)

theorem normKeyLoop_eq_canonLoop (up : Bool) (b : Bytes) : normKeyLoop up b = Spec.canonLoop up b := by
  induction b generalizing up with
  | nil => rfl
  | cons c rest ih =>
    cases up
    · simp only [normKeyLoop, Spec.canonLoop, Bool.false_eq_true, if_false]
      rw [toLower_beq_dash, ih, toLower_ofNat]
    · simp only [normKeyLoop, Spec.canonLoop, if_true]
      rw [toUpper_beq_dash, ih, toUpper_ofNat]

/-- C32: for every token, fasthttp's canonical header name is net/textproto's. -/
theorem normalizeHeaderKey_eq_textproto (b : Bytes) (h : b.all (fun c => Spec.tchar c.toNat) = true) :
    normalizeHeaderKey b false = Spec.canonicalMIMEHeaderKey b := by
  have hv : b.all validHeaderFieldByte = true := by
    rw [List.all_eq_true] at h ⊢
    intro c hc; rw [headerField_eq]; exact h c hc
  simp only [normalizeHeaderKey, removeNewLines_token b h, Bool.false_eq_true, if_false, hv, if_true,
    Spec.canonicalMIMEHeaderKey, h, normKeyLoop_eq_canonLoop]

/-- a name that is not a token is only CR/LF-neutralised, never re-cased -/
theorem normalizeHeaderKey_nontoken (b : Bytes) (h : (removeNewLines b).all validHeaderFieldByte = false) :
    normalizeHeaderKey b false = removeNewLines b := by
  simp [normalizeHeaderKey, h]

theorem normalizeHeaderKey_disabled (b : Bytes) : normalizeHeaderKey b true = removeNewLines b := by
  simp [normalizeHeaderKey]

/-- AppendHTMLEscape is html.EscapeString (five entities) on every string -/
theorem htmlEscape_eq_spec (s : Bytes) : appendHTMLEscape s = Spec.htmlEscape s := by
  induction s with
  | nil => rfl
  | cons c rest ih =>
    simp only [appendHTMLEscape, List.flatMap_cons, Spec.htmlEscape] at ih ⊢
    rw [ih]; rfl

example : normalizeHeaderKey (ofString "conTENT-tYPE") false = ofString "Content-Type" := by
  simp only [ofString_eq]
  decide +kernel
example : (ofString "conTENT-tYPE").all (fun c => Spec.tchar c.toNat) = true := by
  simp only [ofString_eq]
  decide +kernel
example : appendHTMLEscape (ofString "a<b>&\"'") = ofString "a&lt;b&gt;&amp;&#34;&#39;" := by
  simp only [ofString_eq]
  decide +kernel

end Fh.Props.C32

/-! ### what the theorems of this file rest on -/
#print axioms Fh.Props.C32.hex2int_tab
#print axioms Fh.Props.C32.toLower_tab
#print axioms Fh.Props.C32.toUpper_tab
#print axioms Fh.Props.C32.quotedArg_tab
#print axioms Fh.Props.C32.quotedPath_tab
#print axioms Fh.Props.C32.headerField_tab
#print axioms Fh.Props.C32.headerValue_tab
#print axioms Fh.Props.C32.method_tab
#print axioms Fh.Props.C32.table_lengths
#print axioms Fh.Props.C32.hex2int_eq
#print axioms Fh.Props.C32.toLower_eq
#print axioms Fh.Props.C32.toUpper_eq
#print axioms Fh.Props.C32.quotedArg_eq
#print axioms Fh.Props.C32.quotedPath_eq
#print axioms Fh.Props.C32.headerValue_eq
#print axioms Fh.Props.C32.method_eq
#print axioms Fh.Props.C32.tchar_lt
#print axioms Fh.Props.C32.headerField_eq
#print axioms Fh.Props.C32.hex2int_ofNat
#print axioms Fh.Props.C32.toLower_ofNat
#print axioms Fh.Props.C32.toUpper_ofNat
#print axioms Fh.Props.C32.removeNewLines_token
#print axioms Fh.Props.C32.toUpper_beq_dash
#print axioms Fh.Props.C32.toLower_toNat
#print axioms Fh.Props.C32.toLower_toLower
#print axioms Fh.Props.C32.toLower_beq_nonletter
#print axioms Fh.Props.C32.lowercase_idem
#print axioms Fh.Props.C32.toLower_beq_dash
#print axioms Fh.Props.C32.normKeyLoop_eq_canonLoop
#print axioms Fh.Props.C32.normalizeHeaderKey_eq_textproto
#print axioms Fh.Props.C32.normalizeHeaderKey_nontoken
#print axioms Fh.Props.C32.normalizeHeaderKey_disabled
#print axioms Fh.Props.C32.htmlEscape_eq_spec
