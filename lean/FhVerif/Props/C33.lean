/-
C33 — In-memory pipes and listener behave like a reliable byte stream.

Pipe: theorems quantify over ARBITRARY event lists (writes and reads of any sizes at either end, Close anywhere)
and every channel capacity.  Listener: arbitrary interleavings of the lock sections / channel operations of
Dial, Accept and Close.  Residue (not covered): that the Go scheduler eventually runs a blocked call, the timers
behind deadlines, and the atomicity of the modelled steps themselves.
-/
import FhVerif.Proofs.Pipe
import FhVerif.Gen.PipeWrite

namespace Fh.Props.C33
open Fh Fh.Model Fh.Model.Pipe Fh.Proofs.Pipe

/-! ## Pipe -/

/-- `Dir.read` (structural definition used by the theorems) is pipeConn.Read's loop, statement by statement -/
theorem read_is_the_go_loop (stopped : Bool) (s : Dir) (n : Nat) : s.readViaLoop stopped n = s.read stopped n :=
  readViaLoop_eq stopped s n

/-- State form: in every reachable state, for each end, what was delivered ++ the partially read buffer ++ the
    channel content is exactly what the other end wrote. -/
theorem reads_prefix_of_writes_state (cap : Nat) (es : List Ev) (e : End) :
    ((reach cap es).rdir e).readAcc ++ ((reach cap es).rdir e).bb ++ ((reach cap es).rdir e).chan.flatten
      = ((reach cap es).rdir e).written :=
  (List.append_assoc ..).trans (dupInv_reach cap es e).conserve

/-- C33 (stream): for any interleaving of writes and reads of any sizes and any Close points, the concatenation
    of everything the reads of end `e` returned, followed by the bytes still buffered, is exactly the
    concatenation of the successful writes of the other end: nothing lost, duplicated or reordered.
    (Observer form: `readsOf`/`writesOf` are computed from the calls and their results only.) -/
theorem reads_prefix_of_writes (cap : Nat) (es : List Ev) (e : End) :
    readsOf e es (run cap Duplex.init es).1 ++ (((reach cap es).rdir e).bb ++ ((reach cap es).rdir e).chan.flatten)
      = writesOf e.other es (run cap Duplex.init es).1 := by
  have hc := (dupInv_reach cap es e).conserve
  rw [reach, (ghosts_run cap e es _).1, (ghosts_run cap e es _).2] at hc
  -- both ghost fields of the initial state are empty
  cases e <;> exact hc

theorem reads_are_a_prefix (cap : Nat) (es : List Ev) (e : End) :
    readsOf e es (run cap Duplex.init es).1 <+: writesOf e.other es (run cap Duplex.init es).1 :=
  ⟨_, reads_prefix_of_writes cap es e⟩

/-- C33 (capacity): the channel never holds more than `cap` buffers. -/
theorem chan_le_cap (cap : Nat) (es : List Ev) (e : End) : ((reach cap es).wdir e).chan.length ≤ cap :=
  wdir_eq_rdir_other .. ▸ (dupInv_reach cap es e.other).room

/-- C33 (capacity): in a reachable state Write blocks iff the pipe is not closed and the channel is full. -/
theorem write_blocks_iff (cap : Nat) (es : List Ev) (e : End) (p : Bytes) :
    (step cap (reach cap es) (.write e p)).1 = .w .block ↔
      (reach cap es).stopped = false ∧ ((reach cap es).wdir e).chan.length = cap := by
  have hle := chan_le_cap cap es e
  refine write_cases (motive := fun r => Obs.w r.1 = .w .block ↔ _) cap _ _ p ?_ ?_ ?_
  · intro h; rw [h]; exact ⟨nofun, nofun⟩
  · exact fun h hc => ⟨fun _ => ⟨h, Nat.le_antisymm hle hc⟩, fun _ => rfl⟩
  · exact fun _ hc => ⟨nofun, fun h => absurd h.2 (Nat.ne_of_lt hc)⟩

/-- C33 (writes fail after Close): in a closed pipe Write returns ErrConnectionClosed and changes nothing -/
theorem write_after_close_fails (cap : Nat) (s : Duplex) (e : End) (p : Bytes) (h : s.stopped = true) :
    step cap s (.write e p) = (.w .closed, s) :=
  step_write_stopped cap s e p h

/-- … and nothing ever re-opens the pipe: after a Close anywhere in the run the pipe is closed for good -/
theorem close_is_permanent (cap : Nat) (es1 es2 : List Ev) : (reach cap (es1 ++ .close :: es2)).stopped = true := by
  unfold reach
  rw [run_state, List.foldl_append, List.foldl_cons, ← run_state]
  exact stopped_run es2 rfl

/-- C33 (EOF only after everything): a Read of at least one byte on a closed pipe never blocks; it returns EOF
    iff nothing is pending (no partial buffer, empty channel); an EOF read returns no data and changes nothing;
    a non-EOF read strictly decreases `measure` (so EOF is reached). -/
theorem read_after_close (s : Dir) (n : Nat) (hn : 0 < n) :
    (s.read true n).1.err ≠ .block ∧
    ((s.read true n).1.err = .eof ↔ s.bb = [] ∧ s.chan = []) ∧
    ((s.read true n).1.err = .eof → (s.read true n).1.data = [] ∧ (s.read true n).2 = s) ∧
    ((s.read true n).1.err ≠ .eof → (s.read true n).2.measure < s.measure) := by
  by_cases h : s.bb = [] ∧ s.chan = []
  · rw [read_empty true s n hn h.1 h.2]
    exact ⟨nofun, ⟨fun _ => h, fun _ => rfl⟩, fun _ => ⟨rfl, rfl⟩, fun hne => absurd rfl hne⟩
  · have ⟨he, hm⟩ := read_nonempty true s n hn h
    have ne : (s.read true n).1.err ≠ .eof := he ▸ nofun
    exact ⟨he ▸ nofun, ⟨fun e => absurd e ne, fun e => absurd e h⟩, fun e => absurd e ne, fun _ => hm⟩

/-- EOF means everything was delivered: whenever a Read of end `e` in a reachable state returns EOF, the reads
    of `e` so far have returned exactly the bytes the other end wrote. -/
theorem eof_means_all_delivered (cap : Nat) (es : List Ev) (e : End) (n : Nat)
    (h : (step cap (reach cap es) (.read e n)).1 = .r ⟨[], .eof⟩) :
    readsOf e es (run cap Duplex.init es).1 = writesOf e.other es (run cap Duplex.init es).1 := by
  have hp := reads_prefix_of_writes cap es e
  have he : (((reach cap es).rdir e).read (reach cap es).stopped n).1.err = .eof := congrArg RRes.err (Obs.r.inj h)
  revert he
  refine read_cases (motive := fun r => r.1.err = .eof → _) _ _ n (fun _ => nofun) ?_ fun _ _ => nofun
  intro _ hb hc _
  rw [hb, hc] at hp
  exact (List.append_nil _).symm.trans hp

/-- C33 (after Close): let the pipe be closed after `es`.  For ANY continuation `es2` (reads and writes at both
    ends, further Close calls) in which end `e` issues more than `measure` reads, each of at least one byte:
    the results of those reads are a block of successful reads followed by a non-empty block of (no data, EOF);
    the successful ones deliver exactly the bytes that were still pending, so that in total `e` has read
    everything the other end wrote before Close; no read blocks; once EOF, always EOF. -/
theorem after_close_drain_then_eof (cap : Nat) (es es2 : List Ev) (e : End)
    (hst : (reach cap es).stopped = true)
    (hpos : ∀ n ∈ readSizes e es2, 0 < n)
    (hlen : ((reach cap es).rdir e).measure < (readSizes e es2).length) :
    ∃ pre post, readResults e es2 (run cap (reach cap es) es2).1 = pre ++ post ∧
      pre.length ≤ ((reach cap es).rdir e).measure ∧ post ≠ [] ∧
      (∀ r ∈ pre, r.err = .nil) ∧ (∀ r ∈ post, r = ⟨[], .eof⟩) ∧
      readsOf e es (run cap Duplex.init es).1 ++ (pre.map (·.data)).flatten
        = writesOf e.other es (run cap Duplex.init es).1 := by
  have hf := (reads_after_close_frame cap e es2 (reach cap es) hst).1
  obtain ⟨pre, post, h1, h2, h3, h4, h5, h6⟩ := readSeq_drain ((reach cap es).rdir e) (readSizes e es2) hpos hlen
  refine ⟨pre, post, by rw [hf, h1], h2, h3, h4, h6, ?_⟩
  rw [h5]
  exact reads_prefix_of_writes cap es e

/-- Regenerated structural fact: pipeConn.Write hands AT MOST ONE buffer to the channel per call and reports
    either (len(p), nil) or (0, err) — exactly the shape of `Dir.write` (whole payload or nothing).  It has no loop,
    calls no other method of the connection, contains the two send statements of the single non-blocking/blocking
    attempt, and every failing return reports 0 bytes.  A Write that can succeed partially (several buffers per
    call) no longer satisfies this; then the count it returns would have to be modelled and proved. -/
theorem write_is_one_send_or_nothing :
    Gen.pipeWrite_loops = 0 ∧ Gen.pipeWrite_selfCalls = [] ∧ Gen.pipeWrite_sendStmts = 2 ∧
    Gen.pipeWrite_returns = ["0, ErrConnectionClosed", "0, ErrTimeout", "0, ErrConnectionClosed", "len(p), nil"] :=
  ⟨rfl, rfl, rfl, rfl⟩

/-- Regenerated structural fact: the model's `write` event covers EVERY way bytes can enter the pipe.  In the whole
    package the only function with a send on a pipe channel is `pipeConn.Write` (the listener's Dial sends on
    `ln.conns`, a different channel); the other exported entry point `WriteString` (io.StringWriter, used by
    io.WriteString and bufio) consists of `return c.Write(s2b(s))`; and inside Write the `<-stopCh → return` check
    precedes the first send.  So no entry point can bypass the closed check or the one-send shape: a new method or
    helper that sends by itself (e.g. a WriteString with its own copy-and-send) breaks this obligation. -/
theorem every_entry_point_is_write :
    Gen.pipe_sendFuncs = ["InmemoryListener.DialWithLocalAddr", "pipeConn.Write"] ∧
    Gen.pipeWriteString_body = ["return c.Write(s2b(s))"] ∧ Gen.pipeWrite_closedCheckFirst = true :=
  ⟨rfl, rfl, rfl⟩

/-- Regenerated structural fact, consumer side: the model's `read` event covers EVERY way bytes can leave the pipe.
    Only `readNextByteBuffer` receives from a pipe channel, only the unexported `read` calls it (after looking at
    the partly consumed buffer `c.bb`), only the exported `Read` calls `read`, nothing else touches `c.bb`, and the
    method set of pipeConn is exactly the one listed (no io.WriterTo / ReadFrom / other consumer): io.Copy,
    io.ReadFull and bufio all end up in `Read`.  A new consumer that fetches buffers by itself (and could forget
    `c.bb`) breaks this obligation. -/
theorem every_consumer_is_read :
    Gen.pipe_rChReceivers = ["pipeConn.readNextByteBuffer"] ∧ Gen.pipe_callersOfReadNext = ["pipeConn.read"] ∧
    Gen.pipe_callersOfRead = ["pipeConn.Read"] ∧ Gen.pipe_bbUsers = ["pipeConn.read", "pipeConn.readNextByteBuffer"] ∧
    Gen.pipeConn_methods = ["Close", "LocalAddr", "Read", "RemoteAddr", "SetDeadline", "SetReadDeadline",
      "SetWriteDeadline", "Write", "WriteString", "read", "readNextByteBuffer"] :=
  ⟨rfl, rfl, rfl, rfl, rfl⟩

/-- Regenerated structural fact: Write does not retain the caller's slice.  The value it sends on the channel is the
    variable `b`, `b` is only ever `acquireByteBuffer()` (a pooled buffer of its own), its content is
    `append(b.b[:0], p...)` (a COPY of p), and p is used nowhere else except `len(p)`.  This discharges what the model
    takes for granted: `Dir.write` stores the VALUE of the payload at the time of the call (`chan ++ [p]`), so
    whatever the writer does with its slice afterwards cannot change what the peer reads (io.Writer: "Write must not
    modify the slice data … Implementations must not retain p").  A Write that queues a buffer aliasing p breaks it. -/
theorem write_copies_payload :
    Gen.pipeWrite_sentValues = ["b", "b"] ∧ Gen.pipeWrite_bufDefs = ["acquireByteBuffer()"] ∧
    Gen.pipeWrite_bufFills = ["b = append(b.b[:0], p...)"] ∧
    Gen.pipeWrite_usesOfPayload = ["append(b.b[:0], p...)", "len(p)"] :=
  ⟨rfl, rfl, rfl, rfl⟩

/-- model side of the same fact: a Write that does not return `ok` leaves the stream untouched, and `ok n` means
    n = len(p) bytes were appended to what the peer will read -/
theorem write_count_is_what_the_peer_gets (cap : Nat) (stopped : Bool) (s : Dir) (p : Bytes) :
    (∀ n, (s.write cap stopped p).1 = .ok n → n = p.length ∧ (s.write cap stopped p).2.written = s.written ++ p ∧
        (s.write cap stopped p).2.chan = s.chan ++ [p]) ∧
    ((∀ n, (s.write cap stopped p).1 ≠ .ok n) → (s.write cap stopped p).2 = s) := by
  refine write_cases (motive := fun r => (∀ n, r.1 = .ok n → n = p.length ∧ r.2.written = s.written ++ p ∧
    r.2.chan = s.chan ++ [p]) ∧ ((∀ n, r.1 ≠ .ok n) → r.2 = s)) cap stopped s p ?_ ?_ ?_
  · exact fun _ => ⟨nofun, fun _ => rfl⟩
  · exact fun _ _ => ⟨nofun, fun _ => rfl⟩
  · exact fun _ _ => ⟨fun n h => ⟨(WRes.ok.inj h).symm, rfl, rfl⟩, fun h => absurd rfl (h _)⟩

/-! ### non-vacuity (pipe) -/

/-- the run used below: write [1,2,3]; write []; read 2; close; write [9]; read 5; read 1; read 1 at the peer -/
def demo : List Ev :=
  [.write .e1 [1, 2, 3], .write .e1 [], .read .e2 2, .close, .write .e1 [9], .read .e2 5, .read .e2 1, .read .e2 1]

example : (run 4 Duplex.init demo).1 =
    [.w (.ok 3), .w (.ok 0), .r ⟨[1, 2], .nil⟩, .c, .w .closed, .r ⟨[3], .nil⟩, .r ⟨[], .eof⟩, .r ⟨[], .eof⟩] := by
  decide +kernel
example : readsOf .e2 demo (run 4 Duplex.init demo).1 = [1, 2, 3] ∧ writesOf .e1 demo (run 4 Duplex.init demo).1 = [1, 2, 3] := by
  decide +kernel
/-- mid-run: delivered [1,2], partial buffer [3], one (empty) buffer in the channel -/
example : ((reach 4 (demo.take 3)).rdir .e2).readAcc = [1, 2] ∧ ((reach 4 (demo.take 3)).rdir .e2).bb = [3] ∧
    ((reach 4 (demo.take 3)).rdir .e2).chan = [[]] ∧ ((reach 4 (demo.take 3)).rdir .e2).measure = 2 := by
  decide +kernel
/-- hypotheses of `after_close_drain_then_eof` hold for es = first four events, es2 = the rest -/
example : (reach 4 (demo.take 4)).stopped = true ∧ readSizes .e2 (demo.drop 4) = [5, 1, 1] ∧
    ((reach 4 (demo.take 4)).rdir .e2).measure < (readSizes .e2 (demo.drop 4)).length ∧
    readResults .e2 (demo.drop 4) (run 4 (reach 4 (demo.take 4)) (demo.drop 4)).1 = [⟨[3], .nil⟩, ⟨[], .eof⟩, ⟨[], .eof⟩] := by
  decide +kernel
/-- a Read can return (0, nil): it consumed an empty buffer and found nothing behind it -/
example : (Dir.read false ⟨[[]], [], [], []⟩ 4).1 = ⟨[], .nil⟩ := by decide +kernel
/-- one Read spans several buffers but never waits for more than the first -/
example : (Dir.read false ⟨[[3], [4, 5], [6]], [1, 2], [], []⟩ 4) = (⟨[1, 2, 3, 4], .nil⟩, ⟨[[6]], [5], [], [1, 2, 3, 4]⟩) := by
  decide +kernel
example : (Dir.readViaLoop false ⟨[[3], [4, 5], [6]], [1, 2], [], []⟩ 4) = (⟨[1, 2, 3, 4], .nil⟩, ⟨[[6]], [5], [], [1, 2, 3, 4]⟩) := by
  decide +kernel
/-- capacity: the fifth outstanding write blocks, a read makes room, Close turns block into closed -/
example : (run 4 Duplex.init [.write .e2 [1], .write .e2 [2], .write .e2 [3], .write .e2 [4], .write .e2 [5],
      .read .e1 1, .write .e2 [5], .write .e2 [6], .read .e2 1, .close, .write .e2 [6]]).1 =
    [.w (.ok 1), .w (.ok 1), .w (.ok 1), .w (.ok 1), .w .block, .r ⟨[1], .nil⟩, .w (.ok 1), .w .block,
      .r ⟨[], .block⟩, .c, .w .closed] := by
  decide +kernel
example : ((reach 4 [.write .e2 [1], .write .e2 [2], .write .e2 [3], .write .e2 [4]]).wdir .e2).chan.length = 4 := by
  decide +kernel

/-- OUTSIDE the theorems (residue "atomicity of the modelled steps"): a Write that overlaps Close in real time.
    Its stopCh check ran before Close, its send after: the reader, woken by Close, finds the channel empty and gets
    EOF; then the send succeeds (Write returns n, nil); a later Read returns the byte.  Observed on the real code
    (scratch program, 24 of 300000 runs).  The events of `step` are whole calls, so this schedule is not an event
    list of the model; the harness monitor only demands delivery of writes that returned before Close was called. -/
example :
    let s0 := Dir.init
    let r1 := s0.read true 1            -- blocked Read woken by Close: EOF
    let w := r1.2.sendLate 4 [7]        -- the overlapping Write completes: (1, nil)
    let r2 := w.2.read true 1           -- a Read after EOF delivers the byte
    r1.1 = ⟨[], .eof⟩ ∧ w.1 = .ok 1 ∧ r2.1 = ⟨[7], .nil⟩ := by decide +kernel

/-! ## InmemoryListener -/
section Listener
open Fh.Model.Lsn Fh.Proofs.Pipe.Lsn

/-- C33 (pairing): in every reachable state every successful Dial `d` has exactly one Accept that returned its
    peer connection; the `accepted` handshake has happened; different Dials are returned by different Accepts;
    and an Accept only ever returns the connection of a Dial that really enqueued one. -/
theorem dial_accept_bijection (cap : Nat) (es : List Event) (s : State) (h : Lsn.run cap Lsn.init es = some s) :
    (∀ d, s.dial d = .success → ∃ a, s.acc a = .returned d ∧ ∀ a', s.acc a' = .returned d → a' = a) ∧
    (∀ d d' a a', s.acc a = .returned d → s.acc a' = .returned d' → d ≠ d' → a ≠ a') ∧
    (∀ a d, s.acc a = .returned d → s.dial d = .queued ∨ s.dial d = .success ∨ s.dial d = .failed) := by
  have hi := inv_run es (inv_init cap) h
  refine ⟨fun d hd => ?_, fun d d' a a' h1 h2 hne e => ?_, fun a d ha => ?_⟩
  · have ⟨a, ha⟩ := hi.flag d (hi.succ d hd)
    exact ⟨a, ha, fun a' ha' => Option.some.inj ((hi.own a' d (.inr ha')).symm.trans (hi.own a d (.inr ha)))⟩
  · exact hne (AStatus.returned.inj (h1.symm.trans (e ▸ h2)))
  · -- a Dial whose connection an Accept holds has passed `checked`
    have ht := hi.own a d (.inr ha)
    cases hd : s.dial d with
    | fresh => exact nomatch (hi.early d (.inl hd)).1.symm.trans ht
    | checked => exact nomatch (hi.early d (.inr hd)).1.symm.trans ht
    | queued => exact .inl rfl
    | success => exact .inr (.inl rfl)
    | failed => exact .inr (.inr rfl)

theorem queue_le_cap (cap : Nat) (es : List Event) (s : State) (h : Lsn.run cap Lsn.init es = some s) :
    s.queue.length ≤ cap := (inv_run es (inv_init cap) h).qLen

/-- C33 (after Close), ghost-free form: if the listener is closed in state `s1` (any state, reachable or not), a Dial that takes the lock
    afterwards, or an Accept that makes its first check afterwards, has failed in every state reachable from
    there, whatever else happens. -/
theorem no_success_after_close (cap : Nat) (es2 : List Event) (s1 s : State) (hc : s1.closed = true) :
    (∀ d, Lsn.run cap s1 (.dialLock d :: es2) = some s → s.dial d = .failed) ∧
    (∀ a, Lsn.run cap s1 (.acceptBegin a :: es2) = some s → s.acc a = .failed) := by
  constructor
  · intro d hr
    obtain ⟨s2, hst, hr⟩ := Option.bind_eq_some_iff.mp hr
    refine (stable_run es2 hr).2.1 d ?_
    obtain ⟨_, hst⟩ := Option.ite_none_right_eq_some.mp hst
    rw [if_pos hc] at hst
    cases hst
    exact upd_same ..
  · intro a hr
    obtain ⟨s2, hst, hr⟩ := Option.bind_eq_some_iff.mp hr
    refine (stable_run es2 hr).2.2 a ?_
    obtain ⟨_, hst⟩ := Option.ite_none_right_eq_some.mp hst
    rw [if_pos hc] at hst
    cases hst
    exact upd_same ..

/-- the same with the ghost flags (`lateD`/`lateA` = the operation started after Close): no late operation
    is ever successful -/
theorem no_late_success (cap : Nat) (es : List Event) (s : State) (h : Lsn.run cap Lsn.init es = some s) :
    (∀ d, s.dial d = .success → s.lateD d = false) ∧ (∀ a d, s.acc a = .returned d → s.lateA a = false) := by
  have hi := inv_run es (inv_init cap) h
  exact ⟨fun d hd => Bool.eq_false_iff.mpr (fun hl => nomatch hd.symm.trans (hi.lateD d hl)),
    fun a d ha => Bool.eq_false_iff.mpr (fun hl => nomatch ha.symm.trans (hi.lateA a hl))⟩

theorem listener_close_is_permanent (cap : Nat) (es : List Event) (s s' : State) (hc : s.closed = true)
    (h : Lsn.run cap s es = some s') : s'.closed = true := (stable_run es h).1 hc

/-! ### non-vacuity (listener) -/

/-- two dials, two accepts, pairing (d0,a0) (d1,a1); then close; a late dial and a late accept fail -/
def lrun : List Event :=
  [.dialLock 0, .dialLock 1, .dialEnqueue 0, .acceptBegin 0, .dialEnqueue 1, .acceptTake 0, .acceptCommit 0,
   .acceptBegin 1, .acceptTake 1, .dialEnd 0, .acceptCommit 1, .dialEnd 1, .close, .dialLock 2, .acceptBegin 2]

example : (Lsn.run 1024 Lsn.init lrun).map (fun s => (s.dial 0, s.dial 1, s.dial 2, s.acc 0, s.acc 1, s.acc 2, s.closed)) =
    some (.success, .success, .failed, .returned 0, .returned 1, .failed, true) := by rfl

/-- the race the fine-grained model exposes: Accept passed its check and took the connection, Close runs, the Dial
    sees `done` before `accepted` and fails, Accept still returns the (closed) server connection.  Allowed by the
    statement (the Dial did not succeed); the third clause of `dial_accept_bijection` covers it (dial = failed). -/
example : (Lsn.run 1024 Lsn.init [.dialLock 0, .dialEnqueue 0, .acceptBegin 0, .acceptTake 0, .close, .dialAbort 0,
      .acceptCommit 0]).map (fun s => (s.dial 0, s.acc 0)) = some (.failed, .returned 0) := by rfl

/-- Close with a queued connection: the drain closes it, the Dial fails; an Accept blocked before Close fails -/
example : (Lsn.run 1024 Lsn.init [.acceptBegin 0, .dialLock 0, .dialEnqueue 0, .close, .closeDrain, .acceptTake 0,
      .dialAbort 0]).map (fun s => (s.dial 0, s.acc 0, s.queue)) = some (.failed, .failed, []) := by rfl

/-- an Accept on an open listener with an empty queue is not enabled (it waits) -/
example : Lsn.run 1024 Lsn.init [.acceptBegin 0, .acceptTake 0] = none := rfl

end Listener

end Fh.Props.C33

/-! ### what the theorems of this file rest on -/
#print axioms Fh.Props.C33.read_is_the_go_loop
#print axioms Fh.Props.C33.reads_prefix_of_writes_state
#print axioms Fh.Props.C33.reads_prefix_of_writes
#print axioms Fh.Props.C33.reads_are_a_prefix
#print axioms Fh.Props.C33.chan_le_cap
#print axioms Fh.Props.C33.write_blocks_iff
#print axioms Fh.Props.C33.write_after_close_fails
#print axioms Fh.Props.C33.close_is_permanent
#print axioms Fh.Props.C33.read_after_close
#print axioms Fh.Props.C33.eof_means_all_delivered
#print axioms Fh.Props.C33.after_close_drain_then_eof
#print axioms Fh.Props.C33.write_is_one_send_or_nothing
#print axioms Fh.Props.C33.every_entry_point_is_write
#print axioms Fh.Props.C33.every_consumer_is_read
#print axioms Fh.Props.C33.write_copies_payload
#print axioms Fh.Props.C33.write_count_is_what_the_peer_gets
#print axioms Fh.Props.C33.dial_accept_bijection
#print axioms Fh.Props.C33.queue_le_cap
#print axioms Fh.Props.C33.no_success_after_close
#print axioms Fh.Props.C33.no_late_success
#print axioms Fh.Props.C33.listener_close_is_permanent
