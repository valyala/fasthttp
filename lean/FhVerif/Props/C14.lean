/-
C14 — ConnState hook follows the documented state machine.
Model: Model/ConnStates.lean (`Iter`: one pass of the serve loop; `states`: the hook calls made).
-/
import FhVerif.Model.ConnStates

namespace Fh.Props.C14
open Fh Fh.Model

/-- states of `dfaStep`: 1 after New, 3 after Idle, 4 terminal -/
theorem emit_from_idle_or_new (l : List Iter) : (emit l).foldl dfaStep 1 = 4 ∧ (emit l).foldl dfaStep 3 = 4 := by
  induction l with
  | nil => exact ⟨rfl, rfl⟩
  | cons i rest ih =>
    cases i with
    | served => exact ⟨ih.2, ih.2⟩    -- Active, Idle: back in state 3
    | noByte | servedClose | parseError | hijack => exact ⟨rfl, rfl⟩

/-- C14: for every run of the serve loop the hook sequence is a word of
    New · (Active · (Idle · Active)* · Idle?)? · (Closed | Hijacked) -/
theorem connstate_language (l : List Iter) : accepts (states l) = true :=
  beq_iff_eq.2 (emit_from_idle_or_new l).1

theorem emit_terminal (l : List Iter) :
    ∃ pre t, emit l = pre ++ [t] ∧ (t = .closed ∨ t = .hijacked) ∧ ∀ s ∈ pre, s ≠ .closed ∧ s ≠ .hijacked := by
  have hA : ∀ s ∈ [CS.active], s ≠ .closed ∧ s ≠ .hijacked := by decide
  induction l with
  | nil => exact ⟨[], .closed, rfl, .inl rfl, nofun⟩
  | cons i rest ih =>
    cases i with
    | noByte => exact ⟨[], .closed, rfl, .inl rfl, nofun⟩
    | served =>
      obtain ⟨pre, t, h1, h2, h3⟩ := ih
      exact ⟨.active :: .idle :: pre, t, by rw [emit, h1]; rfl, h2,
        List.forall_mem_cons.2 ⟨by decide, List.forall_mem_cons.2 ⟨by decide, h3⟩⟩⟩
    | servedClose | parseError => exact ⟨[.active], .closed, rfl, .inl rfl, hA⟩
    | hijack => exact ⟨[.active], .hijacked, rfl, .inr rfl, hA⟩

theorem terminal_unique_and_last (l : List Iter) :
    ∃ pre t, states l = pre ++ [t] ∧ (t = .closed ∨ t = .hijacked) ∧ ∀ s ∈ pre, s ≠ .closed ∧ s ≠ .hijacked := by
  obtain ⟨pre, t, h1, h2, h3⟩ := emit_terminal l
  exact ⟨.new :: pre, t, by rw [states, h1]; rfl, h2, List.forall_mem_cons.2 ⟨by decide, h3⟩⟩

/-- number of iterations in which at least one byte of a request arrived -/
def byteIters : List Iter → Nat
  | [] => 0
  | .noByte :: rest => byteIters rest
  | _ :: rest => byteIters rest + 1

def countActive : List CS → Nat
  | [] => 0
  | .active :: rest => countActive rest + 1
  | _ :: rest => countActive rest

/-- StateActive is reported at most once per iteration in which a byte arrived, never for an iteration without one -/
theorem active_needs_byte (l : List Iter) : countActive (emit l) ≤ byteIters l := by
  induction l with
  | nil => simp [emit, countActive, byteIters]
  | cons i rest ih => cases i <;> simp [emit, countActive, byteIters] <;> omega

theorem silent_connection_never_active (rest : List Iter) : states (.noByte :: rest) = [.new, .closed] := rfl

example : states [.served, .served, .noByte] = [.new, .active, .idle, .active, .idle, .closed] := by decide
example : states [.noByte] = [.new, .closed] := by decide

end Fh.Props.C14

/-! ### what the theorems of this file rest on -/
#print axioms Fh.Props.C14.emit_from_idle_or_new
#print axioms Fh.Props.C14.connstate_language
#print axioms Fh.Props.C14.emit_terminal
#print axioms Fh.Props.C14.terminal_unique_and_last
#print axioms Fh.Props.C14.active_needs_byte
#print axioms Fh.Props.C14.silent_connection_never_active
