/-
C31 — Date and IP codecs agree with the standard library.
-/
import FhVerif.Proofs.HttpDate
import FhVerif.Proofs.IPAddr
import FhVerif.Model.URI
import FhVerif.Proofs.IPv6
import FhVerif.Base.OfString

namespace Fh.Props.C31
open Fh Fh.Model Fh.Spec Fh.Proofs.HttpDate Fh.Proofs.IPAddr Fh.Proofs.IPv6

/-- the fast parser and the fixed layout `Mon, 02 Jan 2006 15:04:05 GMT` accept the same strings with the same Unix second -/
theorem fast_date_eq_spec (b : Bytes) (h : b.length = 29) : parseRFC1123DateGMT b = httpDateSpec b :=
  date_eq_spec b

/-- C31 (fast path): the fast parser declines or returns the Unix second the layout denotes -/
theorem fast_date_sound (b : Bytes) (t : Int) (h : parseRFC1123DateGMT b = some t) : httpDateSpec b = some t :=
  date_eq_spec b ▸ h

theorem fast_date_fields_valid (b : Bytes) (c : Civil) (h : parseRFC1123Civil b = some c) :
    c.valid = true := (parse_some b c h).2

/-- C31 (round trip): for valid UTC civil fields in years 0..9999 the fast parser reads AppendHTTPDate's output back
    to that time's Unix second (so ParseHTTPDate never needs the slow path for it) -/
theorem httpdate_roundtrip (c : Civil) (hv : c.valid = true) (hy : c.year ≤ 9999) :
    parseRFC1123DateGMT (appendHTTPDate c) = some (civilUnix c) := by
  unfold parseRFC1123DateGMT
  rw [parse_append c hv hy]; rfl

/-- C31 (round trip, on instants): every Unix second of the years 0000–9999 is some valid UTC civil time, whose
    AppendHTTPDate output the fast parser reads back to that second -/
theorem httpdate_roundtrip_unix (n : Int) (h1 : -62167219200 ≤ n) (h2 : n ≤ 253402300799) :
    ∃ c : Civil, c.valid = true ∧ civilUnix c = n ∧ parseRFC1123DateGMT (appendHTTPDate c) = some n := by
  obtain ⟨c, hv, hy, hu⟩ := civil_of_unix n h1 h2
  exact ⟨c, hv, hu, by rw [httpdate_roundtrip c hv hy, hu]⟩

/-- C31: ParseIPv4 accepts exactly four dot-separated non-empty decimal fields of value ≤ 255 and returns that
    address (`dottedQuadSpec`) -/
theorem ipv4_accept_iff (s : Bytes) : (parseIPv4 s).toOption = dottedQuadSpec s := parseIPv4_spec s

theorem ipv4_accept_iff_fields (s : Bytes) (ip : List Nat) :
    parseIPv4 s = .ok ip ↔
      ((splitOn 46 s).length = 4 ∧ (∀ f ∈ splitOn 46 s, f ≠ [] ∧ f.all isDigitB = true ∧ decVal f ≤ 255) ∧
        ip = (splitOn 46 s).map decVal) := by
  have : parseIPv4 s = .ok ip ↔ dottedQuadSpec s = some ip :=
    ⟨fun h => by rw [← parseIPv4_spec, h]; rfl, fun h => toOption_some _ _ (parseIPv4_spec s ▸ h)⟩
  simp only [this, dottedQuadSpec, Option.ite_none_right_eq_some, Bool.and_eq_true, beq_iff_eq, List.all_eq_true,
    isDecField, Bool.not_eq_true', List.isEmpty_eq_false_iff, decide_eq_true_eq, Option.some.injEq, and_assoc,
    eq_comm (a := ip)]

/-- C31: AppendIPv4 output parses back to the same address -/
theorem ipv4_append_parse (a b c d : Nat) (ha : a ≤ 255) (hb : b ≤ 255) (hc : c ≤ 255) (hd : d ≤ 255) :
    parseIPv4 (appendIPv4 [a, b, c, d]) = .ok [a, b, c, d] := by
  apply toOption_some
  rw [parseIPv4_spec]
  exact quad_append a b c d ha hb hc hd

theorem ipv4_octets_le_255 (s : Bytes) (ip : List Nat) (h : parseIPv4 s = .ok ip) : ip.length = 4 ∧ ∀ o ∈ ip, o ≤ 255 := by
  obtain ⟨h1, h2, h3⟩ := (ipv4_accept_iff_fields s ip).1 h
  subst h3
  refine ⟨by simpa using h1, ?_⟩
  intro o ho
  obtain ⟨f, hf, rfl⟩ := List.mem_map.1 ho
  exact (h2 f hf).2.2

/-- C31 (URI level): a host URI.parse accepts has passed validateIPv6Literal in its final, decoded form, with or
    without zone and port (what the repaired parseHost guarantees) -/
theorem uri_host_validated (h r : Bytes) (hp : parseHost h = .ok r) : validateIPv6Literal r = none := by
  have hcv : ∀ x r', checkV6 x = .ok r' → validateIPv6Literal r' = none := by
    intro x r' hc
    unfold checkV6 at hc
    split at hc
    · cases hc
    · rename_i hn; injection hc with hc; subst hc; exact hn
  have generic : ∀ r', (match unescape h false with
      | .error e => (Except.error e : Except UErr Bytes)
      | .ok x => checkV6 x) = .ok r' → validateIPv6Literal r' = none := by
    intro r' hg
    split at hg
    · cases hg
    · exact hcv _ _ hg
  unfold parseHost at hp
  simp only at hp
  split at hp
  · -- "[…": three guards, then the zone form (three pieces unescaped) or the generic path
    split at hp; · cases hp
    split at hp; · cases hp
    split at hp; · cases hp
    split at hp
    · split at hp; · cases hp
      split at hp; · cases hp
      split at hp; · cases hp
      exact hcv _ _ hp
    · exact generic r hp
  · split at hp; · cases hp
    split at hp
    · split at hp; · cases hp
      split at hp; · cases hp
      exact generic r hp
    · exact generic r hp

/-- an accepted literal "[" addr ["%" zone] "]" … has a non-empty address that passed the address checks and no
    empty zone -/
theorem ipv6_literal_checked (t : Bytes) (h : validateIPv6Literal (91 :: t) = none) :
    let lit := t.takeWhile (· != 93)
    let addr := lit.takeWhile (· != 37)
    t.contains 93 = true ∧ lit ≠ [] ∧ validIPv6Addr addr = true ∧
      (lit.contains 37 = true → addr.length ≠ lit.length - 1) := by
  simp only [validateIPv6Literal] at h
  split at h; · cases h
  rename_i h93
  split at h; · cases h
  rename_i hne
  split at h; · cases h
  rename_i hz
  split at h
  · rename_i hv
    refine ⟨by simpa using h93, by intro he; simp [he] at hne, hv, ?_⟩
    intro hc; simp at hz; exact hz (by simpa using hc)
  · cases h

/-- C31 (IPv6, soundness): what validateIPv6Literal's address checks accept is an RFC 4291 §2.2 text form: eight
    groups of 1–4 hex digits, or one "::" for at least one group; the last two groups may be a strict dotted quad -/
theorem ipv6_accept_implies_spec (addr : Bytes) (h : validIPv6Addr addr = true) : ipv6TextSpec addr = true :=
  validIPv6Addr_spec addr h

/-- validIPv4 accepts strict dotted quads only (what net/netip accepts) -/
theorem validIPv4_implies_strict_quad (s : Bytes) (h : validIPv4 s = true) : isStrictQuad s = true :=
  (validIPv4_spec s h).1

/-- C31 (URI level): a bracketed host URI.parse accepts has an RFC 4291 text form between '[' and ']' or '%' -/
theorem bracket_host_is_ipv6 (h t : Bytes) (hp : parseHost h = .ok (91 :: t)) :
    ipv6TextSpec ((t.takeWhile (· != 93)).takeWhile (· != 37)) = true := by
  have hv := uri_host_validated h _ hp
  exact ipv6_accept_implies_spec _ (ipv6_literal_checked t hv).2.2.1

/-- the completeness half of the IPv6 clause ("every zone-less IPv6 address is accepted"): stated, not proved.
    It is decided on every run by the exhaustive enumeration of all strings over {1 a : .} up to length 8 / 10
    (model = Lean spec = net/netip, both directions) and by the structured literals through URI.Parse. -/
def C31_zoneless_complete_full : Prop := ∀ addr : Bytes, ipv6TextSpec addr = true → validIPv6Addr addr = true

example : parseRFC1123DateGMT (ofString "Mon, 02 Jan 2006 15:04:05 GMT") = some 1136214245 := by
  simp only [ofString_eq]
  decide +kernel
example : httpDateSpec (ofString "sUN, 29 fEB 2004 23:59:59 GMT") = some 1078099199 := by
  simp only [ofString_eq]
  decide +kernel
example : parseRFC1123DateGMT (ofString "Sun, 29 Feb 2005 23:59:59 GMT") = none := by
  simp only [ofString_eq]
  decide +kernel
example : parseRFC1123DateGMT (ofString "Sun, 31 Apr 2005 23:59:59 GMT") = none := by
  simp only [ofString_eq]
  decide +kernel
example : httpDateSpec (ofString "Sun, 29 Feb 1900 23:59:59 GMT") = none := by
  simp only [ofString_eq]
  decide +kernel
example : appendHTTPDate ⟨1970, 1, 1, 0, 0, 0⟩ = ofString "Thu, 01 Jan 1970 00:00:00 GMT" ∧
    civilUnix ⟨1970, 1, 1, 0, 0, 0⟩ = 0 := by
  simp only [ofString_eq]
  decide +kernel
example : appendHTTPDate ⟨9999, 12, 31, 23, 59, 59⟩ = ofString "Fri, 31 Dec 9999 23:59:59 GMT" ∧
    civilUnix ⟨9999, 12, 31, 23, 59, 59⟩ = 253402300799 := by
  simp only [ofString_eq]
  decide +kernel
example : (parseIPv4 (ofString "192.168.000.255")).toOption = some [192, 168, 0, 255] := by
  simp only [ofString_eq]
  decide +kernel
example : (parseIPv4 (ofString "1.2.3.256")).toOption = none := by
  simp only [ofString_eq]
  decide +kernel
example : (parseIPv4 (ofString "1.2.3")).toOption = none := by
  simp only [ofString_eq]
  decide +kernel
example : (parseIPv4 (ofString "1..2.3")).toOption = none := by
  simp only [ofString_eq]
  decide +kernel
example : dottedQuadSpec (ofString "1.2.3.4.5") = none := by
  simp only [ofString_eq]
  decide +kernel
example : appendIPv4 [127, 0, 0, 1] = ofString "127.0.0.1" := by
  simp only [ofString_eq]
  decide +kernel
example : validateIPv6Literal (ofString "[::ffff:1.2.3.4]:443") = none := by
  simp only [ofString_eq]
  decide +kernel
example : validateIPv6Literal (ofString "[1:2:3:4:5:6:7::]") = none := by
  simp only [ofString_eq]
  decide +kernel
example : validateIPv6Literal (ofString "[1::2::3]") = some .address := by
  simp only [ofString_eq]
  decide +kernel
example : validateIPv6Literal (ofString "[1:2:3:4:5:6::1.2.3.4]") = some .address := by
  simp only [ofString_eq]
  decide +kernel
example : ipv6TextSpec (ofString "fe80::1") = true ∧ ipv6TextSpec (ofString "1:2:3:4:5:6:7:8:9") = false ∧
    ipv6TextSpec (ofString "::01.2.3.4") = false := by
  simp only [ofString_eq]
  decide +kernel
example : (parseHost (ofString "[zzz%25x]")).toOption = none := by
  simp only [ofString_eq]
  decide +kernel
example : (parseHost (ofString "[fe80::1%25en0]:80")).toOption = some (ofString "[fe80::1%en0]:80") := by
  simp only [ofString_eq]
  decide +kernel

end Fh.Props.C31

/-! ### what the theorems of this file rest on -/
#print axioms Fh.Props.C31.fast_date_eq_spec
#print axioms Fh.Props.C31.fast_date_sound
#print axioms Fh.Props.C31.fast_date_fields_valid
#print axioms Fh.Props.C31.httpdate_roundtrip
#print axioms Fh.Props.C31.httpdate_roundtrip_unix
#print axioms Fh.Props.C31.ipv4_accept_iff
#print axioms Fh.Props.C31.ipv4_accept_iff_fields
#print axioms Fh.Props.C31.ipv4_append_parse
#print axioms Fh.Props.C31.ipv4_octets_le_255
#print axioms Fh.Props.C31.uri_host_validated
#print axioms Fh.Props.C31.ipv6_literal_checked
#print axioms Fh.Props.C31.ipv6_accept_implies_spec
#print axioms Fh.Props.C31.validIPv4_implies_strict_quad
#print axioms Fh.Props.C31.bracket_host_is_ipv6
