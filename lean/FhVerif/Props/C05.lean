/-
C05 — Setter inputs cannot inject header lines or extra messages.

Model: Model/HeaderSet.lean (setter families of both header types, AppendBytes, CONNECT line of httpProxyDial).
Reference: Spec/HeadLines.lean (lenient line-level reader of a message head).
External inputs of the response model — the reason phrase of the status code (status.go table) and the cached Date
value — are hypotheses (`RespOpOK`, `hd`, `ht`): they must be CR/LF free; the C05 harness checks both on every case.
-/
import FhVerif.Proofs.HeaderSet
import FhVerif.Base.OfString
import FhVerif.Gen.Facts

namespace Fh.Props.C05
open Fh Fh.Model Fh.Spec Fh.Proofs.Cookie Fh.Proofs.HeaderSet

def reqInit (dis ndct : Bool) : C05Req := { disableNormalizing := dis, noDefaultContentType := ndct }

/-- a fresh ResponseHeader; `date` = cached server date (none = NoDefaultDate), `text` = reason phrase of status 200 -/
def respInit (dis ndct : Bool) (date : Option Bytes) (text : Bytes) : C05Resp :=
  { disableNormalizing := dis, noDefaultContentType := ndct, date := date, statusText := text }

/-- the field name a peer reads from a line that starts with `k`: everything before the first ':' -/
def nameSeen (k : Bytes) : Bytes := k.takeWhile (· != 58)

theorem removeNewLines_total (b : Bytes) : ∀ c ∈ removeNewLines b, c ≠ 13 ∧ c ≠ 10 := removeNewLines_noNL b

theorem header_key_clean (k : Bytes) (dis : Bool) : ∀ c ∈ normalizeHeaderKey k dis, c ≠ 13 ∧ c ≠ 10 :=
  normalizeHeaderKey_noNL k dis

/-! ### regenerated structural facts: every setter family reaches the sanitiser (re-decided against /repo on each run) -/

/-- value chain: initHeaderValueString → initHeaderValueBytes → removeNewLines; key chain: initHeaderKV → getHeaderKeyBytes →
    normalizeHeaderKey → removeNewLines -/
theorem sanitiser_chain :
    "removeNewLines" ∈ Gen.calls_initHeaderValueBytes ∧ "initHeaderValueBytes" ∈ Gen.calls_initHeaderValueString ∧
    "removeNewLines" ∈ Gen.calls_normalizeHeaderKey ∧ "normalizeHeaderKey" ∈ Gen.calls_getHeaderKeyBytes ∧
    "getHeaderKeyBytes" ∈ Gen.calls_initHeaderKV ∧ "initHeaderValueString" ∈ Gen.calls_initHeaderKV := by decide +kernel

theorem request_setters_call_sanitiser :
    "initHeaderValueString" ∈ Gen.calls_RequestHeader_SetHost ∧ "initHeaderValueBytes" ∈ Gen.calls_RequestHeader_SetHostBytes ∧
    "initHeaderValueString" ∈ Gen.calls_RequestHeader_SetUserAgent ∧ "initHeaderValueBytes" ∈ Gen.calls_RequestHeader_SetUserAgentBytes ∧
    "initHeaderValueString" ∈ Gen.calls_RequestHeader_SetMethod ∧ "initHeaderValueBytes" ∈ Gen.calls_RequestHeader_SetMethodBytes ∧
    "initHeaderValueString" ∈ Gen.calls_RequestHeader_SetRequestURI ∧ "initHeaderValueBytes" ∈ Gen.calls_RequestHeader_SetRequestURIBytes ∧
    "initHeaderValueString" ∈ Gen.calls_RequestHeader_SetProtocol ∧ "initHeaderValueBytes" ∈ Gen.calls_RequestHeader_SetProtocolBytes ∧
    "initHeaderValueBytes" ∈ Gen.calls_RequestHeader_SetRefererBytes ∧ "initHeaderValueBytes" ∈ Gen.calls_RequestHeader_SetContentEncodingBytes ∧
    "initHeaderValueBytes" ∈ Gen.calls_RequestHeader_SetCanonical ∧ "initHeaderKV" ∈ Gen.calls_RequestHeader_Set ∧
    "normalizeHeaderKey" ∈ Gen.calls_RequestHeader_SetBytesKV ∧ "getHeaderKeyBytes" ∈ Gen.calls_RequestHeader_SetBytesV ∧
    "initHeaderKV" ∈ Gen.calls_RequestHeader_AddBytesKV ∧ "initHeaderValueString" ∈ Gen.calls_RequestHeader_SetCookie ∧
    "initHeaderValueString" ∈ Gen.calls_header_SetContentType ∧ "initHeaderValueBytes" ∈ Gen.calls_header_SetContentTypeBytes := by
  decide +kernel

theorem response_setters_call_sanitiser :
    "initHeaderValueBytes" ∈ Gen.calls_ResponseHeader_SetStatusMessage ∧ "initHeaderValueBytes" ∈ Gen.calls_ResponseHeader_SetProtocol ∧
    "initHeaderValueString" ∈ Gen.calls_ResponseHeader_SetServer ∧ "initHeaderValueBytes" ∈ Gen.calls_ResponseHeader_SetServerBytes ∧
    "initHeaderValueString" ∈ Gen.calls_ResponseHeader_SetContentEncoding ∧
    "initHeaderValueBytes" ∈ Gen.calls_ResponseHeader_SetContentEncodingBytes ∧
    "initHeaderValueBytes" ∈ Gen.calls_ResponseHeader_SetCanonical ∧ "initHeaderKV" ∈ Gen.calls_ResponseHeader_Set ∧
    "normalizeHeaderKey" ∈ Gen.calls_ResponseHeader_SetBytesKV ∧ "getHeaderKeyBytes" ∈ Gen.calls_ResponseHeader_SetBytesV ∧
    "initHeaderKV" ∈ Gen.calls_ResponseHeader_AddBytesKV ∧ "initHeaderValueBytes" ∈ Gen.calls_ResponseHeader_SetCookie := by
  decide +kernel

/-- C05 (request): after ANY sequence of setter calls with ANY byte strings, AppendBytes writes
    `first-line CRLF (name ": " value CRLF)* CRLF` where the first line and every name and value are free of CR and LF. -/
theorem no_crlf_in_fields_request (dis ndct : Bool) (ops : List C05ReqOp) :
    let s := C05Req.run (reqInit dis ndct) ops
    s.appendBytes = c05Serialize s.firstLine s.fields ∧
    (∀ c ∈ s.firstLine, c ≠ 13 ∧ c ≠ 10) ∧ ∀ kv ∈ s.fields, (∀ c ∈ kv.1, c ≠ 13 ∧ c ≠ 10) ∧ (∀ c ∈ kv.2, c ≠ 13 ∧ c ≠ 10) := by
  intro s
  have hc := req_run_clean ops _ (req_init_clean dis ndct)
  exact ⟨rfl, req_fields_clean _ hc⟩

/-- C05 (request): a peer reading line by line (LF or CRLF terminated) sees exactly one head — the first line written,
    one field per `appendHeaderLine` call — and nothing after the blank line. -/
theorem one_message_request (dis ndct : Bool) (ops : List C05ReqOp) :
    let s := C05Req.run (reqInit dis ndct) ops
    parseHead s.appendBytes = some ⟨s.firstLine, s.fields.map seenField, []⟩ := by
  intro s
  have hc := req_fields_clean _ (req_run_clean ops _ (req_init_clean dis ndct))
  exact parseHead_serialize_end _ _ hc.1 hc.2

/-- C05 (request): every field name the peer sees is the (canonical) name of a key passed to Set/Add, read up to its
    first ':', or one of the names the library writes on its own.  No guard on the keys. -/
theorem names_subset_request (dis ndct : Bool) (ops : List C05ReqOp) :
    let s := C05Req.run (reqInit dis ndct) ops
    ∀ h, parseHead s.appendBytes = some h →
      ∀ f ∈ h.fields, f.1 ∈ (reqAutoKeys ++ ops.flatMap (reqKeyOf dis)).map nameSeen := by
  intro s h hh f hf
  rw [one_message_request dis ndct ops] at hh
  cases hh
  simp only [List.mem_map] at hf
  obtain ⟨kv, hkv, rfl⟩ := hf
  exact List.mem_map_of_mem (req_run_names ops (reqInit dis ndct) rfl kv hkv)

theorem no_crlf_in_fields_response (dis ndct : Bool) (date : Option Bytes) (text : Bytes)
    (hd : ∀ d, date = some d → ∀ c ∈ d, c ≠ 13 ∧ c ≠ 10) (ht : ∀ c ∈ text, c ≠ 13 ∧ c ≠ 10)
    (ops : List C05RespOp) (hops : ∀ op ∈ ops, RespOpOK op) :
    let s := C05Resp.run (respInit dis ndct date text) ops
    s.appendBytes = c05Serialize s.firstLine s.fields ∧
    (∀ c ∈ s.firstLine, c ≠ 13 ∧ c ≠ 10) ∧ ∀ kv ∈ s.fields, (∀ c ∈ kv.1, c ≠ 13 ∧ c ≠ 10) ∧ (∀ c ∈ kv.2, c ≠ 13 ∧ c ≠ 10) := by
  intro s
  have hc := resp_run_clean ops _ hops (resp_init_clean dis ndct date text hd ht)
  exact ⟨rfl, resp_fields_clean _ hc⟩

theorem one_message_response (dis ndct : Bool) (date : Option Bytes) (text : Bytes)
    (hd : ∀ d, date = some d → ∀ c ∈ d, c ≠ 13 ∧ c ≠ 10) (ht : ∀ c ∈ text, c ≠ 13 ∧ c ≠ 10)
    (ops : List C05RespOp) (hops : ∀ op ∈ ops, RespOpOK op) :
    let s := C05Resp.run (respInit dis ndct date text) ops
    parseHead s.appendBytes = some ⟨s.firstLine, s.fields.map seenField, []⟩ := by
  intro s
  have hc := resp_fields_clean _ (resp_run_clean ops _ hops (resp_init_clean dis ndct date text hd ht))
  exact parseHead_serialize_end _ _ hc.1 hc.2

theorem names_subset_response (dis ndct : Bool) (date : Option Bytes) (text : Bytes)
    (hd : ∀ d, date = some d → ∀ c ∈ d, c ≠ 13 ∧ c ≠ 10) (ht : ∀ c ∈ text, c ≠ 13 ∧ c ≠ 10)
    (ops : List C05RespOp) (hops : ∀ op ∈ ops, RespOpOK op) :
    let s := C05Resp.run (respInit dis ndct date text) ops
    ∀ h, parseHead s.appendBytes = some h →
      ∀ f ∈ h.fields, f.1 ∈ (respAutoKeys ++ ops.flatMap (respKeyOf dis)).map nameSeen := by
  intro s h hh f hf
  rw [one_message_response dis ndct date text hd ht ops hops] at hh
  cases hh
  simp only [List.mem_map] at hf
  obtain ⟨kv, hkv, rfl⟩ := hf
  exact List.mem_map_of_mem (resp_run_names ops (respInit dis ndct date text) rfl kv hkv)

/-! ### keys containing ':' (DESIGN §9, strictness decision 1) -/

/-- the strict reading of "field names are among those set": names seen are the canonical keys themselves -/
def C05_full : Prop :=
  ∀ (dis ndct : Bool) (ops : List C05ReqOp) (h : Head),
    parseHead (C05Req.run (reqInit dis ndct) ops).appendBytes = some h →
    ∀ f ∈ h.fields, f.1 ∈ reqAutoKeys ++ ops.flatMap (reqKeyOf dis)

/-- C05, strict reading, under the guard that no key passed to Set/Add contains ':' (then `nameSeen` is the identity). -/
theorem names_subset_request_partial (dis ndct : Bool) (ops : List C05ReqOp)
    (hg : ∀ k ∈ ops.flatMap (reqKeyOf dis), ∀ c ∈ k, c ≠ 58) :
    ∀ h, parseHead (C05Req.run (reqInit dis ndct) ops).appendBytes = some h →
      ∀ f ∈ h.fields, f.1 ∈ reqAutoKeys ++ ops.flatMap (reqKeyOf dis) := by
  intro h hh f hf
  have := names_subset_request dis ndct ops h hh f hf
  obtain ⟨k, hk, hkf⟩ := List.mem_map.1 this
  have hid : nameSeen k = k := by
    have hno : ∀ c ∈ k, (c != 58) = true := by
      rcases List.mem_append.1 hk with h1 | h1
      · have : ∀ k ∈ reqAutoKeys, k.all (· != 58) = true := by decide +kernel
        intro c hc
        exact (List.all_eq_true.1 (this k h1)) c hc
      · intro c hc; simpa using hg k h1 c hc
    unfold nameSeen
    simpa using List.takeWhile_append_of_pos (l₂ := []) hno
  rw [← hkf, hid]; exact hk

/-- without the guard: `Set("a:b", "v")` is written as the line `a:b: v`, the well-formed field `a` with value `b: v`.
    One call, one field, no further line.  This is the only way `C05_full` fails; it is not counted as an injection
    (decision 1), and `names_subset_request` covers such keys. -/
theorem colon_key_is_cut_not_injected :
    parseHead (C05Req.run (reqInit false false) [.set (ofString "a:b") (ofString "v")]).appendBytes =
      some ⟨ofString "GET / HTTP/1.1", [(ofString "a", ofString "b: v")], []⟩ := by
  decide +kernel

/-- C05 (proxy target): a target address containing CR or LF is rejected; otherwise the CONNECT request is one head whose
    lines are CR/LF free and whose only fields are Host and Proxy-Authorization, with nothing after the blank line. -/
theorem connect_target_safe (addr auth : Bytes) (hauth : ∀ c ∈ auth, c ≠ 13 ∧ c ≠ 10) :
    ((∃ c ∈ addr, c = 13 ∨ c = 10) → c05Connect addr auth = none) ∧
    ∀ w, c05Connect addr auth = some w →
      ∃ h, parseHead w = some h ∧ h.rest = [] ∧ (∀ c ∈ h.first, c ≠ 13 ∧ c ≠ 10) ∧
        ∀ f ∈ h.fields, f.1 = Gen.strHost ∨ f.1 = ofString "Proxy-Authorization" := by
  constructor
  · intro ⟨c, hc, hcc⟩
    unfold c05Connect
    have : addr.any (fun c => c == 13 || c == 10) = true :=
      List.any_eq_true.2 ⟨c, hc, by rcases hcc with h | h <;> simp [h]⟩
    simp [this]
  · intro w hw
    obtain ⟨first, fs, rfl, h1, h2⟩ := connect_clean addr auth hauth w hw
    refine ⟨_, parseHead_serialize_end first fs h1 fun kv hkv => (h2 kv hkv).1, rfl, h1, ?_⟩
    intro f hf
    obtain ⟨kv, hkv, rfl⟩ := List.mem_map.1 hf
    rcases (h2 kv hkv).2 with h | h
    · simp only [seenField, h]
      exact Or.inl (by decide +kernel)
    · simp only [seenField, h]
      exact Or.inr (by decide +kernel)

/-! ### non-vacuity -/

-- the classic attack: a value carrying CRLF + a header + a whole second request is delivered as ONE field
example : parseHead (C05Req.run (reqInit false false)
    [.host (ofString "h"), .set (ofString "X-A") (ofString "v\r\nX-Injected: 1\r\n\r\nGET /2 HTTP/1.1\r\n\r\n")]).appendBytes =
    some ⟨ofString "GET / HTTP/1.1",
      [(ofString "Host", ofString "h"), (ofString "X-A", ofString "v  X-Injected: 1    GET /2 HTTP/1.1")], []⟩ := by
  simp only [ofString_eq]
  decide +kernel
-- CR/LF in a key, a method and a status message
example : (C05Req.run (reqInit false false) [.method (ofString "GET /x HTTP/1.1\r\nA: b\r\n\r\n"), .add (ofString "K\r\nJ") (ofString "v")]).appendBytes =
    ofString "GET /x HTTP/1.1  A: b     / HTTP/1.1\r\nK  J: v\r\n\r\n" := by
  simp only [ofString_eq]
  decide +kernel
example : (C05Resp.run (respInit false true none (ofString "OK")) [.statusMessage (ofString "Fine\r\nSet-Cookie: a=b")]).appendBytes =
    ofString "HTTP/1.1 200 Fine  Set-Cookie: a=b\r\n\r\n" := by
  simp only [ofString_eq]
  decide +kernel
example : c05Connect (ofString "h:443\r\nX: y") [] = none := by
  simp only [ofString_eq]
  decide +kernel
example : (c05Connect (ofString "h:443") []).isSome = true := by
  simp only [ofString_eq]
  decide +kernel

end Fh.Props.C05

/-! ### what the theorems of this file rest on -/
#print axioms Fh.Props.C05.removeNewLines_total
#print axioms Fh.Props.C05.header_key_clean
#print axioms Fh.Props.C05.sanitiser_chain
#print axioms Fh.Props.C05.request_setters_call_sanitiser
#print axioms Fh.Props.C05.response_setters_call_sanitiser
#print axioms Fh.Props.C05.no_crlf_in_fields_request
#print axioms Fh.Props.C05.one_message_request
#print axioms Fh.Props.C05.names_subset_request
#print axioms Fh.Props.C05.no_crlf_in_fields_response
#print axioms Fh.Props.C05.one_message_response
#print axioms Fh.Props.C05.names_subset_response
#print axioms Fh.Props.C05.names_subset_request_partial
#print axioms Fh.Props.C05.colon_key_is_cut_not_injected
#print axioms Fh.Props.C05.connect_target_safe
