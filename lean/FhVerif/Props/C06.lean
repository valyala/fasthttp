/-
C06 — Cookie values cannot smuggle cookies or attributes; cookies round-trip.

Model: Model/Cookie.lean (cookie.go + request-cookie path of header.go, including the repair
"fix: RequestHeader.SetCookie neutralises ';'").  Reference: Spec/SetCookie.lean (RFC 6265 §5.2 user agent, §4.2.1 server).
The date codec is a parameter; its round trip is the hypothesis `GoodDate` (C31's subject), checked on every generated
expiry by the C06 harness.
-/
import FhVerif.Proofs.Cookie
import FhVerif.Proofs.CookieObj
import FhVerif.Gen.Facts
import FhVerif.Gen.CookieScratch
import FhVerif.Base.OfString

namespace Fh.Props.C06
open Fh Fh.Model Fh.Spec Fh.Proofs.Cookie

/-! ### regenerated structural facts (re-decided against /repo on each run) -/

/-- every Cookie text setter and RequestHeader.SetCookie runs the CR/LF sanitiser and removeSemicolons -/
theorem setters_call_neutralisers :
    "removeSemicolons" ∈ Gen.calls_Cookie_SetKey ∧ "removeSemicolons" ∈ Gen.calls_Cookie_SetKeyBytes ∧
    "removeSemicolons" ∈ Gen.calls_Cookie_SetValue ∧ "removeSemicolons" ∈ Gen.calls_Cookie_SetValueBytes ∧
    "removeSemicolons" ∈ Gen.calls_Cookie_SetDomain ∧ "removeSemicolons" ∈ Gen.calls_Cookie_SetDomainBytes ∧
    "removeSemicolons" ∈ Gen.calls_Cookie_SetPath ∧ "removeSemicolons" ∈ Gen.calls_Cookie_SetPathBytes ∧
    "removeNewLines" ∈ Gen.calls_Cookie_SetPath ∧ "removeNewLines" ∈ Gen.calls_Cookie_SetPathBytes ∧
    "initHeaderValueString" ∈ Gen.calls_Cookie_SetKey ∧ "initHeaderValueBytes" ∈ Gen.calls_Cookie_SetKeyBytes ∧
    "initHeaderValueString" ∈ Gen.calls_Cookie_SetValue ∧ "initHeaderValueBytes" ∈ Gen.calls_Cookie_SetValueBytes ∧
    "initHeaderValueString" ∈ Gen.calls_Cookie_SetDomain ∧ "initHeaderValueBytes" ∈ Gen.calls_Cookie_SetDomainBytes ∧
    "removeSemicolons" ∈ Gen.calls_RequestHeader_SetCookie ∧ "initHeaderValueString" ∈ Gen.calls_RequestHeader_SetCookie := by
  decide +kernel

inductive CkOp
  | key (b : Bytes) | value (b : Bytes) | domain (b : Bytes) | path (b : Bytes)
  | maxAge (n : Int) | expire (t : Option Nat) | httpOnly (b : Bool) | secure (b : Bool)
  | sameSite (m : SameSite) | partitioned (b : Bool)

def applyOp (c : Cookie) : CkOp → Cookie
  | .key b => c.setKey b
  | .value b => c.setValue b
  | .domain b => c.setDomain b
  | .path b => c.setPath b
  | .maxAge n => c.setMaxAge n
  | .expire t => c.setExpire t
  | .httpOnly b => c.setHTTPOnly b
  | .secure b => c.setSecure b
  | .sameSite m => c.setSameSite m
  | .partitioned b => c.setPartitioned b

/-- the cookie after any sequence of setter calls on a fresh (or Reset) Cookie -/
def build (ops : List CkOp) : Cookie := ops.foldl applyOp {}

theorem applyOp_clean (c : Cookie) (op : CkOp) (hc : Clean c) : Clean (applyOp c op) := by
  cases op with
  | key b => exact { hc with key := ckSanitize_noSemi b, keyNL := ckSanitize_noNL b }
  | value b => exact { hc with value := ckSanitize_noSemi b, valueNL := ckSanitize_noNL b }
  | domain b => exact { hc with domain := ckSanitize_noSemi b, domainNL := ckSanitize_noNL b }
  | path b => exact hc.setPath b
  | maxAge n => exact { hc with }
  | expire t => exact { hc with }
  | httpOnly b => exact { hc with }
  | secure b => exact { hc with }
  | sameSite m =>
    show Clean (c.setSameSite m)
    unfold Cookie.setSameSite
    split <;> exact { hc with }
  | partitioned b =>
    cases b
    · exact { hc with }
    · exact Clean.setPath (c := { c with partitioned := true, secure := true }) { hc with } [47]

/-- every text field of a setter-built cookie is free of ';', CR and LF — for arbitrary argument bytes -/
theorem setters_neutralise (ops : List CkOp) : Clean (build ops) :=
  foldl_inv applyOp_clean ops ⟨nofun, nofun, nofun, nofun, nofun, nofun, nofun, nofun⟩

/-- C06: for ANY key, value, domain and path bytes given to the setters, the attributes a user agent recognises in the
    serialised cookie are exactly those that were set (`attrsSet`: read off the Cookie's fields, in order).
    Only hypothesis: the date text contains no ';'. -/
theorem no_attr_smuggle (D : DateCodec) (hD : ∀ t, ∀ c ∈ D.fmt t, c ≠ 59) (ops : List CkOp) :
    rfcAttrs ((build ops).appendBytes D) = attrsSet D (build ops) :=
  rfcAttrs_append D hD (setters_neutralise ops)

/-- the same for every cookie whose text fields are free of ';' (e.g. one produced by ParseBytes and re-serialised) -/
theorem no_attr_smuggle_clean (D : DateCodec) (hD : ∀ t, ∀ c ∈ D.fmt t, c ≠ 59) (c : Cookie) (hc : Clean c) :
    rfcAttrs (c.appendBytes D) = attrsSet D c :=
  rfcAttrs_append D hD hc

/-- C06: fasthttp's own parser, applied to the serialised form of any setter-built cookie, either rejects it
    (ErrInvalidCookieValue: a '"' or '\' left in value/domain, a byte outside 0x20..0x7e in the path; ErrNoCookies for
    the empty cookie) or returns `canon c`: the attributes set, up to the documented normalisations (max-age before
    expires, negative max-age = 0, edge spaces / one pair of enclosing quotes trimmed). -/
theorem setcookie_attrs_roundtrip (D : DateCodec) (hD : GoodDate D) (ops : List CkOp)
    (hm : (build ops).maxAge ≤ 2 ^ 63 - 1) (he : (build ops).expire ≠ some 0) :
    Cookie.parseBytes D ((build ops).appendBytes D) =
      if ((build ops).appendBytes D).isEmpty then .error .noCookies
      else if parseable (build ops) then .ok (canon (build ops)) else .error .invalidValue :=
  parse_append D hD (build ops) (setters_neutralise ops) hm he

/-- C06: key, value, domain, path made of RFC 6265 cookie-octets (key a non-empty name without '=') round-trip
    unchanged together with every attribute; expiry to the second (unless max-age is set, which takes precedence). -/
theorem octets_roundtrip (D : DateCodec) (hD : GoodDate D) (c : Cookie)
    (hk : CookieName c.key) (hv : OctetStr c.value) (hd : OctetStr c.domain) (hp : OctetStr c.path)
    (hm0 : 0 ≤ c.maxAge) (hm : c.maxAge ≤ 2 ^ 63 - 1) (he : c.expire ≠ some 0) :
    Cookie.parseBytes D (c.appendBytes D) = .ok { c with expire := if c.maxAge ≠ 0 then none else c.expire } := by
  have hc : Clean c := ⟨octet_noSemi hk.oct, octet_noSemi hv, octet_noSemi hd, octet_noSemi hp,
    octet_noNL hk.oct, octet_noNL hv, octet_noNL hd, octet_noNL hp⟩
  have hkv : ckSplitKV c.kvPiece = (c.key, c.value) := splitKV_octets hk hv
  have hne : (c.appendBytes D).isEmpty = false := by
    cases h : c.key with
    | nil => exact absurd h hk.ne
    | cons a t => simp [Cookie.appendBytes, Cookie.kvPiece, h]
  rw [parse_append D hD c hc hm he]
  simp only [hne, Bool.false_eq_true, if_false, parseable, hkv, octet_validValue hv, octet_trim hd, octet_trim hp,
    octet_validValue hd, octet_validPath hp, Bool.and_self, if_true]
  congr 1
  have : ¬ c.maxAge < 0 := by omega
  simp only [canon, hkv, octet_trim hd, octet_trim hp, this, if_false]

-- an attacker-controlled value cannot add a Domain attribute: the ';' is neutralised
example : rfcAttrs ((build [.key (ofString "k"), .value (ofString "v; Domain=evil.com"), .secure true]).appendBytes ckDate) =
    [(.secure, [])] := by
  simp only [ofString_eq]
  decide +kernel
example : (build [.key (ofString "k"), .value (ofString "v; Domain=evil.com")]).appendBytes ckDate =
    ofString "k=v  Domain=evil.com" := by
  simp only [ofString_eq]
  decide +kernel
example : (Cookie.parseBytes ckDate ((build [.key (ofString "sid"), .value (ofString "abc"), .domain (ofString "x.org"),
    .path (ofString "/a/../b"), .maxAge 60, .httpOnly true, .sameSite .none, .partitioned true]).appendBytes ckDate)).toOption =
    some ({ key := ofString "sid", value := ofString "abc", domain := ofString "x.org", path := ofString "/", maxAge := 60,
            httpOnly := true, secure := true, sameSite := SameSite.none, partitioned := true } : Cookie) := by
  simp only [ofString_eq]
  decide +kernel
-- the executable date codec round-trips on a sample (the general statement is C31's)
example : ckParseDate (ckFmtDate 63898123456) = some 63898123456 := by decide +kernel

/-- C06: after ANY sequence of RequestHeader.SetCookie calls (arbitrary key/value bytes), each stored cookie yields at
    most one cookie parsed from the written Cookie header, and that one depends on the stored cookie alone. -/
theorem request_no_extra (ops : List (Bytes × Bytes)) :
    parseRequestCookies (appendRequestCookieBytes (reqOps ops)) =
      ((reqOps ops).map fun e => ckSplitKV (ckItem e)).filter ckKeep :=
  parse_append_request _ (reqOps_clean ops)

theorem request_count_le (ops : List (Bytes × Bytes)) :
    (parseRequestCookies (appendRequestCookieBytes (reqOps ops))).length ≤ (reqOps ops).length := by
  rw [request_no_extra]
  exact Nat.le_trans (List.length_filter_le _ _) (by simp)

/-- C06: for cookie-octet names and values the server sees exactly the ordered multimap of the cookies set
    (SetCookie = `set` of the C28 reference multimap). -/
theorem request_cookies_exact (ops : List (Bytes × Bytes)) (h : ∀ kv ∈ ops, CookieName kv.1 ∧ OctetStr kv.2) :
    parseRequestCookies (appendRequestCookieBytes (reqOps ops)) =
      (ops.foldl (fun (m : MM) kv => m.set kv.1 (some kv.2)) []).map fun e => (e.key, e.value.getD []) := by
  have inv : ∀ (l : ArgList), (∀ e ∈ l, CookieName e.key ∧ OctetStr e.val) →
      (∀ e ∈ ops.foldl (fun cs kv => reqSetCookie cs kv.1 kv.2) l, CookieName e.key ∧ OctetStr e.val) ∧
      C28.abs (ops.foldl (fun cs kv => reqSetCookie cs kv.1 kv.2) l) =
        ops.foldl (fun (m : MM) kv => m.set kv.1 (some kv.2)) (C28.abs l) := by
    induction ops with
    | nil => intro l hl; exact ⟨hl, rfl⟩
    | cons kv rest ih =>
      intro l hl
      have hkv := h kv (by simp)
      have e1 : ckSanitize kv.1 = kv.1 := octet_sanitize hkv.1.oct
      have e2 : ckSanitize kv.2 = kv.2 := octet_sanitize hkv.2
      simp only [List.foldl_cons, reqSetCookie, e1, e2]
      have := ih (fun x hx => h x (by simp [hx])) (setArg l kv.1 (some kv.2))
        (forall_setArg hl ⟨hkv.1, hkv.2⟩)
      rw [C28.set_refines] at this
      exact this
  obtain ⟨hall, habs⟩ := inv [] (by intro e he; cases he)
  rw [show reqOps ops = ops.foldl (fun cs kv => reqSetCookie cs kv.1 kv.2) [] from rfl,
    parse_append_request_octets _ hall]
  have : C28.abs ([] : ArgList) = [] := rfl
  rw [this] at habs
  rw [← habs]
  simp [C28.abs, KV.val]

/-- the defect the check found on the unrepaired tree: without ';' neutralisation in RequestHeader.SetCookie,
    `SetCookie("a", "1; b=2")` makes the server see two cookies. -/
theorem unsanitised_setcookie_counterexample :
    parseRequestCookies (appendRequestCookieBytes (reqSetCookieUnfixed [] [97] [49, 59, 32, 98, 61, 50])) =
      [([97], [49]), ([98], [50])] := by
  decide +kernel

-- with the repair the same call yields one cookie
example : parseRequestCookies (appendRequestCookieBytes (reqOps [(ofString "a", ofString "1; b=2")])) =
    [(ofString "a", ofString "1  b=2")] := by
  simp only [ofString_eq]
  decide +kernel
example : parseRequestCookies (appendRequestCookieBytes (reqOps [(ofString "a", ofString "1"), (ofString "b", ofString "2"),
    (ofString "a", ofString "3")])) = [(ofString "a", ofString "3"), (ofString "b", ofString "2")] := by
  simp only [ofString_eq]
  decide +kernel

/-! ### reused and pooled Cookie objects: serialisation depends on the current fields only, never on the history -/

/-- regenerated from cookie.go on every run: the Cookie struct consists of the ten value fields (all assigned by Reset and
    by CopyTo, which like ParseBytes starts from Reset) and the scratch buffers bufK / bufV, and no method reads a scratch
    buffer before it has itself written it.  Hence the Go object IS the model's ten fields. -/
theorem scratch_buffers_write_before_read :
    Gen.cookie_staleScratchReads = [] ∧ Gen.cookie_scratchFields = ["bufK", "bufV"] ∧
    Gen.cookie_resetFields = ["domain", "expire", "httpOnly", "key", "maxAge", "partitioned", "path", "sameSite", "secure", "value"] ∧
    (∀ f ∈ Gen.cookie_resetFields, f ∈ Gen.cookie_copyToFields) ∧
    Gen.cookie_parseBytesResetsFirst = true ∧ Gen.cookie_copyToResetsFirst = true ∧
    "AppendBytes" ∈ Gen.cookie_methods ∧ "ParseBytes" ∈ Gen.cookie_methods ∧ "CopyTo" ∈ Gen.cookie_methods := by
  decide +kernel

/-- Parse / ParseBytes / ResponseHeader.Cookie overwrite the object: whatever happened to it before (`hist`), afterwards
    its fields are those of the parsed text alone. -/
theorem parse_overwrites_history (D : DateCodec) (c0 : Cookie) (hist : List CkObjOp) (src : Bytes) :
    Cookie.runObj D c0 (hist ++ [.parse src]) = (Cookie.parseInto D src).1 := by
  simp [Cookie.runObj, List.foldl_append, Cookie.applyObj]

/-- the same for CopyTo and for Reset / ReleaseCookie+AcquireCookie -/
theorem copy_and_reset_overwrite_history (D : DateCodec) (c0 src : Cookie) (hist : List CkObjOp) :
    Cookie.runObj D c0 (hist ++ [.copyFrom src]) = src ∧ Cookie.runObj D c0 (hist ++ [.reset]) = {} := by
  simp [Cookie.runObj, List.foldl_append, Cookie.applyObj]

/-- serialising does not change the object: any number of Cookie/String/AppendBytes/WriteTo calls interleaved -/
theorem serialise_is_pure (D : DateCodec) (c : Cookie) (n : Nat) :
    Cookie.runObj D c (List.replicate n .serialise) = c := by
  induction n with
  | zero => rfl
  | succ k ih => simpa [Cookie.runObj, List.replicate_succ, Cookie.applyObj] using ih

/-- everything ParseBytes returns has ';'/CR/LF-free text fields, so the theorems above apply to re-serialised cookies -/
theorem parsed_cookie_clean (D : DateCodec) (src : Bytes) (c : Cookie) (h : Cookie.parseBytes D src = .ok c) :
    Clean c ∧ c.maxAge ≤ 2 ^ 63 - 1 ∧ c.expire ≠ some 0 :=
  let p := parse_parsed D src c h
  ⟨p.clean, p.maxAge, p.expire⟩

/-- C06 on a reused object: after ANY history, a successful Parse of `src` followed by serialisation gives a Set-Cookie
    string in which a user agent sees exactly the attributes of the parsed cookie, and which ParseBytes reads back as the
    canonical form of that cookie — in particular with ITS expiry. -/
theorem reserialise_after_history (D : DateCodec) (hD : GoodDate D) (c0 : Cookie) (hist : List CkObjOp) (src : Bytes)
    (c : Cookie) (h : Cookie.parseBytes D src = .ok c) :
    let obj := Cookie.runObj D c0 (hist ++ [.parse src, .serialise])
    obj = c ∧ rfcAttrs (obj.appendBytes D) = attrsSet D c ∧
    Cookie.parseBytes D (obj.appendBytes D) =
      if (c.appendBytes D).isEmpty then .error .noCookies
      else if parseable c then .ok (canon c) else .error .invalidValue := by
  intro obj
  have hobj : obj = c := by
    have := (parseInto_ok D src c).1 h
    simp [obj, Cookie.runObj, List.foldl_append, Cookie.applyObj, this]
  have hp := parse_parsed D src c h
  rw [hobj]
  exact ⟨rfl, rfcAttrs_append D hD.noSemi hp.clean, parse_append D hD c hp.clean hp.maxAge hp.expire⟩

-- an object that carried (and serialised) expiry 2099 and then parses a cookie with expiry 2031 serialises 2031
example : ((Cookie.runObj ckDate {} [.setKey (ofString "a"), .setExpire (some 66233638800), .serialise,
    .parse (ofString "prefs=xyz; expires=Wed, 01 Jan 2031 10:20:30 GMT; HttpOnly"), .serialise]).appendBytes ckDate) =
    ofString "prefs=xyz; expires=Wed, 01 Jan 2031 10:20:30 GMT; HttpOnly" := by
  simp only [ofString_eq]
  decide +kernel

end Fh.Props.C06

/-! ### what the theorems of this file rest on -/
#print axioms Fh.Props.C06.setters_call_neutralisers
#print axioms Fh.Props.C06.applyOp_clean
#print axioms Fh.Props.C06.setters_neutralise
#print axioms Fh.Props.C06.no_attr_smuggle
#print axioms Fh.Props.C06.no_attr_smuggle_clean
#print axioms Fh.Props.C06.setcookie_attrs_roundtrip
#print axioms Fh.Props.C06.octets_roundtrip
#print axioms Fh.Props.C06.request_no_extra
#print axioms Fh.Props.C06.request_count_le
#print axioms Fh.Props.C06.request_cookies_exact
#print axioms Fh.Props.C06.unsanitised_setcookie_counterexample
#print axioms Fh.Props.C06.scratch_buffers_write_before_read
#print axioms Fh.Props.C06.parse_overwrites_history
#print axioms Fh.Props.C06.copy_and_reset_overwrite_history
#print axioms Fh.Props.C06.serialise_is_pure
#print axioms Fh.Props.C06.parsed_cookie_clean
#print axioms Fh.Props.C06.reserialise_after_history
