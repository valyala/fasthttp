/-
C03 — Server responses are framed exactly as the handler built them.

Model: the response head is `c05Serialize` of Model/HeaderSet.lean (C05 shows its lines are clean), fixed-size body
streams are `writeBodyFixedSize` of Model/RespWrite.lean, the body API is Model/BodyOps.lean.
Reference: Spec/RespParse.lean (a reader that knows the request method).
-/
import FhVerif.Model.RespWrite
import FhVerif.Spec.RespParse
import FhVerif.Proofs.HeaderSet
import FhVerif.Props.C30
import FhVerif.Proofs.BodyOps
import FhVerif.Gen.Facts
import FhVerif.Base.OfString

namespace Fh.Props.C03
open Fh Fh.Model Fh.Spec Fh.Proofs.HeaderSet Fh.Proofs.Cookie

/-- C03 (framing): a head whose lines are clean, followed by a body of the length its Content-Length field announces
    and by anything, is read back by the reference reader as that head and that body, continuing at the body's end -/
theorem write_parses_back (method first : Bytes) (fs : List (Bytes × Bytes)) (body rest : Bytes) (st : Nat)
    (h1 : NoNL first) (hfs : ∀ kv ∈ fs, NoNL kv.1 ∧ NoNL kv.2)
    (hst : rpStatus first = some st) (hbody : rpNoBody method st = false)
    (hcl : rpContentLength (fs.map seenField) = some body.length) :
    parseResponse method (c05Serialize first fs ++ body ++ rest) = some ⟨first, fs.map seenField, body, rest⟩ := by
  rw [parseResponse, List.append_assoc, parseHead_serialize first fs h1 hfs]
  simp [hst, hbody, hcl]

/-- responses to HEAD and 1xx/204/304 responses are read back without a body, whatever their fields say -/
theorem no_body_for_head_204_304 (method first : Bytes) (fs : List (Bytes × Bytes)) (rest : Bytes) (st : Nat)
    (h1 : NoNL first) (hfs : ∀ kv ∈ fs, NoNL kv.1 ∧ NoNL kv.2)
    (hst : rpStatus first = some st) (hbody : rpNoBody method st = true) :
    parseResponse method (c05Serialize first fs ++ rest) = some ⟨first, fs.map seenField, [], rest⟩ := by
  rw [parseResponse, parseHead_serialize first fs h1 hfs]
  simp [hst, hbody]

/-- Response.Write announces the buffered body's length: after SetContentLength(len body) the header carries the
    field `Content-Length: <decimal len>` -/
theorem content_length_field_present (s : C05Resp) (n : Nat) (h : s.mustSkipCL = false) :
    (Gen.strContentLength, appendUint n) ∈ (s.setContentLength n).fields := by
  have hne : (appendUint n).isEmpty = false := List.isEmpty_eq_false_iff.mpr (Props.C30.appendUint_spec n).1
  simp [C05Resp.setContentLength, h, C05Resp.fields, hne]

theorem content_length_value_roundtrip (n : Nat) :
    (!(appendUint n).isEmpty && (appendUint n).all rpIsDigit) = true ∧ rpNat (appendUint n) = n := by
  obtain ⟨h1, h2, h3⟩ := Props.C30.appendUint_spec n
  have hd : rpIsDigit = Spec.isDigitB := funext fun c => by simp [rpIsDigit, Spec.isDigitB, UInt8.le_iff_toNat_le]
  exact ⟨by rw [hd, h2, List.isEmpty_eq_false_iff.mpr h1]; rfl, (h3 0).trans (by rw [Nat.zero_mul, Nat.zero_add])⟩

def C03_full_stream : Prop :=
  ∀ (declared : Nat) (stream : Bytes), (writeBodyFixedSize declared stream).1.length ≤ declared

/-- the unrepaired defect (KNOWN_FINDINGS: stream-longer-than-declared): a stream longer than its declared size is
    copied in full -/
theorem stream_longer_counterexample : ¬ C03_full_stream :=
  fun h => absurd (h 1 [115, 115, 115]) (by decide)

/-- a stream not longer than declared never exceeds it, and a size mismatch is reported (connection closed) -/
theorem stream_never_exceeds_declared_partial (declared : Nat) (stream : Bytes) (h : stream.length ≤ declared) :
    (writeBodyFixedSize declared stream).1.length ≤ declared ∧
    ((writeBodyFixedSize declared stream).2 = true ↔ stream.length ≠ declared) := by
  simp [writeBodyFixedSize, h]

open Fh.Model.BodyOps in
/-- C03 (body): whatever sequence of body operations a handler performs on a fresh Response, the bytes sent are the
    body it built in the reading a handler author has (`absStep`): the last replacement, extended by the appends after it -/
theorem body_sent_is_body_built (ops : List Op) : sent (BodyOps.run init ops) = (absRun absInit ops).cur :=
  (Proofs.BodyOps.bodyRel_run ops init absInit (by simp [Proofs.BodyOps.BodyRel, init, absInit, sent])).1

open Fh.Model.BodyOps in
/-- a raw body or a stream never has an earlier buffered body underneath it (which a later append would resurrect) -/
theorem raw_or_stream_has_empty_buffer (ops : List Op) :
    ((BodyOps.run init ops).raw.isSome ∨ (BodyOps.run init ops).stream.isSome) → (BodyOps.run init ops).body = [] :=
  -- every single operation establishes this, whatever the state before it
  foldl_inv (P := fun s : RB => (s.raw.isSome ∨ s.stream.isSome) → s.body = [])
    (fun s op _ => by cases op <;> simp [step, resetBody]) ops (by simp [init])

open Fh.Model.BodyOps in
/-- after `SetBody b` followed only by appends, `b` and the appended pieces are sent, whatever was done before -/
theorem last_set_then_appends (before : List Op) (b : Bytes) (pieces : List Bytes) :
    sent (BodyOps.run init (before ++ Op.set b :: pieces.map Op.app)) = b ++ pieces.flatten := by
  rw [body_sent_is_body_built, absRun, List.foldl_append]
  exact congrArg Abs.cur (Proofs.BodyOps.absRun_apps pieces b)

/-- regenerated from /repo (extract/effects_c03.go): the Response body methods do what `Model.BodyOps.step` and `sent`
    assume — Set* and Append* close a stream and go through `bodyBuffer()`, which drops the raw body; SetBodyRaw and
    SetBodyStream start with `ResetBody()`, which drops raw body, stream and buffer contents; `bodyBytes()` prefers the
    raw body to the buffer -/
theorem body_methods_have_modelled_shape :
    Gen.effects_Response_SetBody = ["call:closeBodyStream", "call:bodyBuffer", "local:bodyBuf.Reset", "local:bodyBuf.Write"] ∧
    Gen.effects_Response_SetBodyString = ["call:closeBodyStream", "call:bodyBuffer", "local:bodyBuf.Reset", "local:bodyBuf.WriteString"] ∧
    Gen.effects_Response_AppendBody = ["call:closeBodyStream", "onresult:Write", "call:bodyBuffer"] ∧
    Gen.effects_Response_AppendBodyString = ["call:closeBodyStream", "onresult:WriteString", "call:bodyBuffer"] ∧
    Gen.effects_Response_ResetBody = ["set:bodyRaw=nil", "call:closeBodyStream", "if:resp.body != nil", "if:resp.keepBodyBuffer",
      "other:resp.body.Reset", "local:responseBodyPool.Put", "set:body=nil"] ∧
    Gen.effects_Response_SetBodyRaw = ["call:ResetBody", "set:bodyRaw=body"] ∧
    Gen.effects_Response_SetBodyStream = ["call:ResetBody", "set:bodyStream=bodyStream", "other:resp.Header.SetContentLength"] ∧
    Gen.effects_Response_bodyBuffer = ["if:resp.body == nil", "set:body=responseBodyPool.Get()", "local:responseBodyPool.Get",
      "set:bodyRaw=nil", "return:resp.body"] ∧
    Gen.effects_Response_bodyBytes = ["if:resp.bodyRaw != nil", "return:resp.bodyRaw", "if:resp.body == nil", "return:nil",
      "return:resp.body.B"] := by decide +kernel

-- a raw body over a buffered one, then an append
example : Model.BodyOps.sent (Model.BodyOps.run Model.BodyOps.init
    [.set (ofString "first draft. "), .raw (ofString "RAW"), .app (ofString "tail")]) = ofString "tail" := by
  simp only [ofString_eq]
  decide +kernel
example : Model.BodyOps.sent (Model.BodyOps.run Model.BodyOps.init
    [.app (ofString "a"), .stream (ofString "S"), .rawNil, .app (ofString "b"), .app (ofString "c")]) = ofString "bc" := by
  simp only [ofString_eq]
  decide +kernel

example : parseResponse (ofString "GET") (ofString "HTTP/1.1 200 OK\r\nContent-Length: 2\r\n\r\nhiNEXT") =
    some ⟨ofString "HTTP/1.1 200 OK", [(ofString "Content-Length", ofString "2")], ofString "hi", ofString "NEXT"⟩ := by
  simp only [ofString_eq]
  decide +kernel

end Fh.Props.C03

/-! ### what the theorems of this file rest on -/
#print axioms Fh.Props.C03.write_parses_back
#print axioms Fh.Props.C03.no_body_for_head_204_304
#print axioms Fh.Props.C03.content_length_field_present
#print axioms Fh.Props.C03.content_length_value_roundtrip
#print axioms Fh.Props.C03.stream_longer_counterexample
#print axioms Fh.Props.C03.stream_never_exceeds_declared_partial
#print axioms Fh.Props.C03.body_sent_is_body_built
#print axioms Fh.Props.C03.raw_or_stream_has_empty_buffer
#print axioms Fh.Props.C03.last_set_then_appends
#print axioms Fh.Props.C03.body_methods_have_modelled_shape
