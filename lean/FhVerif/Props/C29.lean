/-
C29 — Header API behaves as a case-insensitive ordered multimap (ordinary names: proved; special names: monitored).
-/
import FhVerif.Model.HeaderOps
import FhVerif.Props.C28
import FhVerif.Props.C32
import FhVerif.Gen.Facts
import FhVerif.Base.OfString

namespace Fh.Props.C29
open Fh Fh.Model Fh.Spec

/-! ### regenerated structural fact: every deletion from `h.h` uses the order-preserving primitive -/
theorem del_uses_stable :
    "delAllArgsStable" ∈ Gen.calls_RequestHeader_del ∧ "delAllArgs" ∉ Gen.calls_RequestHeader_del ∧
    "delAllArgsStable" ∈ Gen.calls_ResponseHeader_del ∧ "delAllArgs" ∉ Gen.calls_ResponseHeader_del ∧
    "delAllArgs" ∉ Gen.calls_header_ResetConnectionClose ∧
    "delAllArgs" ∉ Gen.calls_ResponseHeader_SetContentLength ∧
    "delAllArgs" ∉ Gen.calls_RequestHeader_SetContentLength := by decide

inductive Op
  | add (k v : Bytes)
  | set (k v : Bytes)
  | del (k : Bytes)

def stepImpl (hd : Hdr) : Op → Hdr
  | .add k v => hd.add k v
  | .set k v => hd.set k v
  | .del k => hd.del k

def stepSpec (dis : Bool) (m : MM) : Op → MM
  | .add k v => m.add (normalizeHeaderKey k dis) (some v)
  | .set k v => m.set (normalizeHeaderKey k dis) (some v)
  | .del k => m.del (normalizeHeaderKey k dis)

/-- C29: any sequence of Add / Set / Del on an empty header acts as the same sequence on the reference multimap of C28,
    each name first passed through `normalizeHeaderKey` -/
theorem ops_refine_spec (dis : Bool) (ops : List Op) :
    C28.abs (ops.foldl stepImpl ⟨dis, []⟩).h = ops.foldl (stepSpec dis) [] ∧
    (ops.foldl stepImpl ⟨dis, []⟩).disableNormalizing = dis :=
  List.foldl_rel (r := fun (hd : Hdr) m => C28.abs hd.h = m ∧ hd.disableNormalizing = dis) ⟨rfl, rfl⟩
    fun op _ hd m ⟨hm, hdis⟩ => by
      subst hm hdis
      cases op <;> exact ⟨by simp only [stepImpl, stepSpec, Hdr.add, Hdr.set, Hdr.del, Hdr.key, C28.add_refines,
        C28.set_refines, C28.del_refines], rfl⟩

/-- two spellings of a token name address the same entries -/
theorem key_case_insensitive (a b : Bytes) (ha : a.all (fun c => Spec.tchar c.toNat) = true)
    (hb : b.all (fun c => Spec.tchar c.toNat) = true)
    (h : Spec.canonicalMIMEHeaderKey a = Spec.canonicalMIMEHeaderKey b) :
    normalizeHeaderKey a false = normalizeHeaderKey b false := by
  rw [C32.normalizeHeaderKey_eq_textproto a ha, C32.normalizeHeaderKey_eq_textproto b hb, h]

theorem peekAll_other (l : ArgList) (k k' : Bytes) (v : Option Bytes) (h : k ≠ k') :
    peekAll (delAllArgsStable l k) k' = peekAll l k' ∧ peekAll (setArg l k v) k' = peekAll l k' ∧
    peekAll (appendArg l k v) k' = peekAll l k' := by
  induction l with
  | nil => simp [delAllArgsStable, setArg, appendArg, peekAll, h]
  | cons e rest ih =>
    simp only [appendArg] at ih ⊢
    by_cases h1 : e.key = k
    · subst h1; simp [delAllArgsStable, setArg, peekAll, h, ih]
    · simp [delAllArgsStable, setArg, peekAll, h1, ih]

/-- C29: other names keep their values and order under Del / Set / Add -/
theorem other_names_untouched (hd : Hdr) (k k' : Bytes) (v : Bytes) (h : hd.key k ≠ hd.key k') :
    (hd.del k).peekAll k' = hd.peekAll k' ∧ (hd.set k v).peekAll k' = hd.peekAll k' ∧
    (hd.add k v).peekAll k' = hd.peekAll k' :=
  peekAll_other hd.h _ _ (some v) h

/-- the swap-delete primitive (`delAllArgs`, used by the original `del`) does NOT have this property:
    [X, A=1, A=2] minus X gives A = [2, 1].  This is the input the check found on the unrepaired tree. -/
theorem swap_delete_counterexample :
    peekAll (delAllArgsSwap [⟨[88], some [120]⟩, ⟨[65], some [49]⟩, ⟨[65], some [50]⟩] [88]) [65] ≠
      peekAll [⟨[88], some [120]⟩, ⟨[65], some [49]⟩, ⟨[65], some [50]⟩] [65] := by
  decide +kernel

example : ((Hdr.mk false []).add (ofString "x-a") (ofString "1")).peekAll (ofString "X-A") = [ofString "1"] := by
  simp only [ofString_eq]
  decide +kernel

end Fh.Props.C29

/-! ### what the theorems of this file rest on -/
#print axioms Fh.Props.C29.del_uses_stable
#print axioms Fh.Props.C29.ops_refine_spec
#print axioms Fh.Props.C29.key_case_insensitive
#print axioms Fh.Props.C29.peekAll_other
#print axioms Fh.Props.C29.other_names_untouched
#print axioms Fh.Props.C29.swap_delete_counterexample
