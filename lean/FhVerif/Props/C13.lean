/-
C13 — Worker pool serves each connection once and stays within its bound.

All theorems quantify over ARBITRARY event lists `evs` from the initial pool: any interleaving of the two halves of
`Serve`, the worker steps, `clean` and `Stop`, at the granularity of the critical sections of workerpool.go.
Residue (not provable here): the Go code really executes these regions atomically, goroutines that have an
enabled step are eventually scheduled, and the clock values `release`/`clean` read.
-/
import FhVerif.Proofs.WorkerPool
import FhVerif.Gen.WpRegions

namespace Fh.Props.C13
open Fh.Model.WP Fh.Proofs.WorkerPool

/-- 1 iff worker `w` is inside `WorkerFunc` -/
def running (s : State) (w : Nat) : Nat :=
  match (s.workers w).phase with
  | .serving _ => 1
  | _ => 0

/-- At most MaxWorkersCount workers exist at any time: `workersCount` never exceeds the bound, it is exactly the
    number of worker goroutines that have not finished, and it bounds the concurrently running `WorkerFunc` calls. -/
theorem workers_le_max (m : Nat) (evs : List Event) (s : State) (h : run (init m) evs = some s) :
    s.workersCount ≤ m ∧ s.workersCount = sumTo s.nextWid (live s) ∧ sumTo s.nextWid (running s) ≤ s.workersCount := by
  have hi := run_inv evs (inv_init m) h
  refine ⟨Nat.le_trans hi.a.hMax (Nat.le_of_eq (run_frame evs h).1), hi.a.hCount, hi.a.hCount ▸ sumTo_le fun x => ?_⟩
  simp only [running, live]
  cases (s.workers x).phase <;> simp

/-- Safety half of "served exactly once", for every connection `c` submitted so far: received by at most one
    worker, at most once; at most one terminal outcome (closed / hijacked), only after it was received; never
    received if `Serve` rejected it; and a worker inside `WorkerFunc(c)` is THE receiver of `c`. -/
theorem served_exactly_once (m : Nat) (evs : List Event) (s : State) (h : run (init m) evs = some s)
    (c : Nat) (hc : c < s.nconns) :
    (s.recvBy c).length ≤ 1 ∧ (s.outcomes c).length ≤ (s.recvBy c).length ∧
    (s.loc c = .rejected → s.recvBy c = [] ∧ s.outcomes c = []) ∧
    (∀ w, (s.workers w).phase = .serving c → s.recvBy c = [w]) ∧
    (∀ w v, (s.workers w).phase = .serving c → (s.workers v).phase = .serving c → w = v) := by
  have hi := run_inv evs (inv_init m) h
  have hserv : ∀ w, (s.workers w).phase = .serving c → s.loc c = .at w :=
    fun w hw => ((hi.b c).1 w).mp (.inr (.inr hw))
  have huniq : ∀ w v, (s.workers w).phase = .serving c → (s.workers v).phase = .serving c → w = v :=
    fun w v hw hv => Loc.at.inj ((hserv w hw).symm.trans (hserv v hv))
  have h2 := (hi.b c).2
  cases hl : s.loc c <;> simp only [hl] at h2 hserv
  · omega
  · exact ⟨by simp [h2], by simp [h2], fun _ => h2.2, fun w hw => (nomatch hserv w hw), huniq⟩
  · next w0 =>
    refine ⟨by rw [h2.2.1]; split <;> simp, by simp [h2], nofun, fun w hw => ?_, huniq⟩
    cases hserv w hw
    rw [h2.2.1, if_pos hw]
  · exact ⟨by simp [h2], by simp [h2], nofun, fun w hw => (nomatch hserv w hw), huniq⟩

/-- Completion half of "served exactly once" and "no connection is lost across Stop".
    From EVERY reachable state — in particular with `Stop` anywhere in `evs` — the autonomous continuation computed
    by `drainEvents` (no new Serve, clean or Stop) is executable to its end, and afterwards every connection submitted
    so far is either one `Serve` rejected, or was received by exactly one worker and has exactly one terminal
    outcome; if the pool was stopped, no worker is left at all. -/
theorem no_conn_lost_across_stop (m : Nat) (evs : List Event) (s : State) (h : run (init m) evs = some s) :
    ∃ s', run s (drainEvents (work s) s) = some s' ∧ (∀ e ∈ drainEvents (work s) s, isAuto e = true) ∧
      s'.nconns = s.nconns ∧
      (∀ c, c < s.nconns →
        (s.loc c = .rejected ∧ s'.recvBy c = [] ∧ s'.outcomes c = []) ∨
        (s.loc c ≠ .rejected ∧ ∃ w, s'.recvBy c = [w] ∧ (s'.outcomes c).length = 1)) ∧
      (s.mustStop = true → s'.workersCount = 0 ∧ (∀ w, (s'.workers w).phase = .exited) ∧ s'.ready = []) := by
  have hi := run_inv evs (inv_init m) h
  obtain ⟨s', hr, hi', hw, hn, hm, hrej, hall⟩ := drain_spec (work s) hi (Nat.le_refl _)
  refine ⟨s', hr, hall, hn, fun c hc => ?_, fun hms => ?_⟩
  · rcases quiescent_conns hi' hw c (by omega) with ⟨h1, h2, h3⟩ | ⟨w, h1, h2, h3⟩
    · exact .inl ⟨(hrej c).mp h1, h2, h3⟩
    · exact .inr ⟨fun e => (nomatch h1.symm.trans ((hrej c).mpr e)), w, h2, h3⟩
  · have hms' := hm.trans hms
    obtain ⟨h1, h2⟩ := quiescent_stopped hi'.a hw hms'
    exact ⟨h1, h2, hi'.a.hStop hms'⟩

/-- The continuation above is not special: EVERY enabled autonomous event strictly decreases `work` (so every
    schedule of autonomous events is finite, bounded by `work s`); as long as `work s > 0` some autonomous event is
    enabled (no deadlock); and `work s = 0` means every connection is finished and every worker idle or gone. -/
theorem every_schedule_completes (m : Nat) (evs : List Event) (s : State) (h : run (init m) evs = some s) :
    (∀ e s', isAuto e = true → step s e = some s' → work s' < work s ∧ s'.nconns = s.nconns ∧ s'.mustStop = s.mustStop) ∧
    (0 < work s → ∃ e, isAuto e = true ∧ (step s e).isSome = true) ∧
    (work s = 0 →
      (∀ c, c < s.nconns → (s.loc c = .rejected ∧ s.recvBy c = [] ∧ s.outcomes c = []) ∨
                            (∃ w, s.loc c = .done w ∧ s.recvBy c = [w] ∧ (s.outcomes c).length = 1)) ∧
      (∀ w, (s.workers w).phase = .exited ∨ ((s.workers w).phase = .waiting ∧ cntR s w = 1))) := by
  have hi := run_inv evs (inv_init m) h
  refine ⟨fun e s' => auto_decreases e hi.a, fun hpos => ?_,
    fun h0 => ⟨quiescent_conns hi h0, fun w => (quiescent_worker hi.a h0 w).2⟩⟩
  have hne := nextEvent_spec hi.a
  split at hne
  · omega
  · next e _ => exact ⟨e, hne⟩

/-- After Stop no idle worker remains, ever: `mustStop` stays set, and with it `ready` is empty in every reachable
    state (workers that finish later are not re-added). -/
theorem no_ready_after_stop (m : Nat) (evs evs' : List Event) (s s' : State)
    (h : run (init m) evs = some s) (hm : s.mustStop = true) (h' : run s evs' = some s') :
    s.ready = [] ∧ s'.mustStop = true ∧ s'.ready = [] := by
  have hi := run_inv evs (inv_init m) h
  have hi' := run_inv evs' hi h'
  have hm' := (run_frame evs' h').2 hm
  exact ⟨hi.a.hStop hm, hm', hi'.a.hStop hm'⟩

/-- `Stop` itself: it is always enabled (its sends under the lock never block), it empties `ready`, and every
    worker that was idle gets exactly one nil. -/
theorem stop_notifies_every_ready_worker (m : Nat) (evs : List Event) (s : State) (h : run (init m) evs = some s)
    (hm : s.mustStop = false) :
    ∃ s', step s .stop = some s' ∧ s'.ready = [] ∧ s'.mustStop = true ∧
      ∀ w, (s'.workers w).chan = if 0 < cntR s w then [none] else (s.workers w).chan := by
  have hi := run_inv evs (inv_init m) h
  obtain ⟨s', hst⟩ := Option.isSome_iff_exists.mp (sends_enabled hi.a).2.2
  refine ⟨s', hst, ?_⟩
  cases step_sound hst with
  | stopAgain hm' => rw [hm] at hm'; cases hm'
  | stop =>
    refine ⟨rfl, rfl, fun w => ?_⟩
    by_cases hw : 0 < cntR s w
    · obtain ⟨_, _, hch, _, h1⟩ := ready_idle hi.a hw
      simp [hch, h1]
    · simp [Nat.eq_zero_of_not_pos hw]

/-- No channel send of the pool ever blocks: a Serve call that holds a workerChan finds it empty, and so does the
    cleaner for every retired worker. -/
theorem sends_never_block (m : Nat) (evs : List Event) (s : State) (h : run (init m) evs = some s) :
    (∀ w c, (s.workers w).reserved = some c → (s.workers w).chan = []) ∧
    (∀ w, w ∈ s.pending → (s.workers w).chan = []) :=
  let hi := run_inv evs (inv_init m) h
  ⟨(sends_enabled hi.a).1, (sends_enabled hi.a).2.1⟩

/-- The loop of `clean`: if `ready` is sorted by lastUseTime, the binary search returns the length of the longest
    expired prefix, so `clean` retires exactly the expired workers and keeps the rest in order. -/
theorem clean_retires_prefix (s : State) (crit : Nat) (hs : s.ready.Pairwise (fun a b => a.2 ≤ b.2)) :
    cleanCount s.ready crit = (s.ready.takeWhile (fun e => decide (e.2 < crit))).length ∧
    ∃ s', step s (.clean crit) = some s' ∧
      s'.ready = s.ready.dropWhile (fun e => decide (e.2 < crit)) ∧
      s'.pending = s.pending ++ (s.ready.takeWhile (fun e => decide (e.2 < crit))).map (·.1) := by
  have hc := cleanCount_sorted s.ready crit hs
  refine ⟨hc, _, rfl, ?_, ?_⟩
  · simp only [hc]; exact (take_drop_takeWhile _ _).2
  · simp only [hc]; rw [(take_drop_takeWhile _ _).1]

/-! ### regenerated structural facts: the events of the model are the lock regions of workerpool.go

`fhextract` recomputes the `wp.lock` regions of the five methods on every run (Gen/WpRegions.lean). Each of
`getCh`, `release`, `clean`, `Stop` and the tail of `workerFunc` must be ONE critical section that contains every
access to `ready` / `mustStop` / `workersCount` its event of `step` performs. In particular if `Stop` is split,
`release` can run in between, see `mustStop = false` and re-append a worker that nobody stops any more. -/

theorem getCh_is_one_region :
    Gen.wpRegions_getCh.length = 1 ∧ Gen.wpUnlocked_getCh = [] ∧
    (∀ t ∈ ["r:ready", "w:ready", "r:workersCount", "w:workersCount"], t ∈ Gen.wpRegions_getCh.flatten) := by decide

theorem release_is_one_region :
    Gen.wpRegions_release.length = 1 ∧ Gen.wpUnlocked_release = [] ∧
    (∀ t ∈ ["r:mustStop", "w:ready"], t ∈ Gen.wpRegions_release.flatten) := by decide

/-- clean: the cut of `ready` is one region; only the nil notifications happen outside (event `notify`), and they are
    plain BLOCKING sends ("send"; inside a `select` with `default` it would be "trysend", without default "selsend").
    `notify w` puts the nil into the channel unconditionally: with unbuffered channels (GOMAXPROCS=1) a non-blocking
    attempt would drop the signal for a worker that has called `release` but is not yet parked on its channel, and
    that worker would be lost (out of `ready`, never told to stop). -/
theorem clean_is_one_region_sends_outside :
    Gen.wpRegions_clean.length = 1 ∧ Gen.wpUnlocked_clean = ["send"] ∧
    (∀ t ∈ ["r:ready", "w:ready"], t ∈ Gen.wpRegions_clean.flatten) ∧ "send" ∉ Gen.wpRegions_clean.flatten := by decide

/-- every hand-over of the pool is a blocking send: Serve's `ch.ch <- c` (event `send`), Stop's and clean's nils;
    no method uses a non-blocking or multi-way send -/
theorem all_sends_are_blocking :
    Gen.wpRegions_Serve = [] ∧ Gen.wpUnlocked_Serve = ["send"] ∧
    (∀ t ∈ ["trysend", "selsend"],
      t ∉ Gen.wpUnlocked_clean ∧ t ∉ Gen.wpRegions_clean.flatten ∧ t ∉ Gen.wpUnlocked_Stop ∧ t ∉ Gen.wpRegions_Stop.flatten ∧
      t ∉ Gen.wpUnlocked_Serve ∧ t ∉ Gen.wpUnlocked_getCh ∧ t ∉ Gen.wpRegions_getCh.flatten ∧
      t ∉ Gen.wpUnlocked_release ∧ t ∉ Gen.wpRegions_release.flatten) := by decide

/-- Stop: draining `ready`, the nil sends and `mustStop = true` are one critical section -/
theorem stop_is_one_region :
    Gen.wpRegions_Stop.length = 1 ∧ Gen.wpUnlocked_Stop = [] ∧
    (∀ t ∈ ["r:ready", "w:ready", "send", "w:mustStop"], t ∈ Gen.wpRegions_Stop.flatten) := by decide

theorem workerFunc_exit_is_one_region :
    Gen.wpRegions_workerFunc.length = 1 ∧ Gen.wpUnlocked_workerFunc = [] ∧
    "w:workersCount" ∈ Gen.wpRegions_workerFunc.flatten := by decide

/-- `workersCount` is written in exactly two places: the creation branch of getCh (+1) and the tail of workerFunc
    (event `exit`, −1, once per worker goroutine); clean, Stop, release and Serve do not touch it. -/
theorem workersCount_written_only_by_getCh_and_exit :
    "w:workersCount" ∈ Gen.wpRegions_getCh.flatten ∧ "w:workersCount" ∈ Gen.wpRegions_workerFunc.flatten ∧
    (∀ t ∈ ["w:workersCount", "r:workersCount"],
      t ∉ Gen.wpRegions_clean.flatten ∧ t ∉ Gen.wpUnlocked_clean ∧ t ∉ Gen.wpRegions_Stop.flatten ∧ t ∉ Gen.wpUnlocked_Stop ∧
      t ∉ Gen.wpRegions_release.flatten ∧ t ∉ Gen.wpUnlocked_release ∧ t ∉ Gen.wpRegions_Serve.flatten ∧ t ∉ Gen.wpUnlocked_Serve) := by
  decide

def atEnd (o : Option State) (p : State → Bool) : Bool :=
  match o with
  | some s => p s
  | none => false

/-- one connection, Stop while it is being served: it is still finished, the worker exits, nothing is idle -/
example :
    atEnd (run (init 1) [.getCh, .send 0, .recv 0, .stop, .finish 0 false, .release 0 5, .exit 0])
      (fun s => s.workersCount == 0 && s.recvBy 0 == [0] && s.outcomes 0 == [false] && s.ready == [] && s.mustStop) = true := by
  decide

/-- bound 1: the second Serve is rejected while the first connection is served; after release the worker is reused -/
example :
    atEnd (run (init 1) [.getCh, .send 0, .recv 0, .getCh, .finish 0 true, .release 0 7, .getCh])
      (fun s => s.workersCount == 1 && s.loc 1 == Loc.rejected && s.loc 2 == Loc.at 0 && s.outcomes 0 == [true] &&
                s.ready == []) = true := by
  decide

/-- the drain of a state with a reserved worker, a queued connection and a Stop in between -/
example :
    atEnd ((run (init 2) [.getCh, .getCh, .send 0, .stop]).bind (fun s => run s (drainEvents (work s) s)))
      (fun s => s.workersCount == 0 && s.recvBy 0 == [0] && s.recvBy 1 == [1] && s.outcomes 0 == [false] &&
                s.outcomes 1 == [false]) = true := by
  decide

/-- clean on a sorted ready list: times 1 3 5 7, critical time 5 retires workers 0 and 1 -/
example : cleanCount [(0, 1), (1, 3), (2, 5), (3, 7)] 5 = 2 := by decide
example :
    atEnd (run (init 3) [.getCh, .getCh, .send 0, .send 1, .recv 0, .recv 1, .finish 0 false, .finish 1 false,
                   .release 0 1, .release 1 9, .clean 5]) (fun s => s.ready == [(1, 9)] && s.pending == [0]) = true := by
  decide

end Fh.Props.C13

/-! ### what the theorems of this file rest on -/
#print axioms Fh.Props.C13.workers_le_max
#print axioms Fh.Props.C13.served_exactly_once
#print axioms Fh.Props.C13.no_conn_lost_across_stop
#print axioms Fh.Props.C13.every_schedule_completes
#print axioms Fh.Props.C13.no_ready_after_stop
#print axioms Fh.Props.C13.stop_notifies_every_ready_worker
#print axioms Fh.Props.C13.sends_never_block
#print axioms Fh.Props.C13.clean_retires_prefix
#print axioms Fh.Props.C13.getCh_is_one_region
#print axioms Fh.Props.C13.release_is_one_region
#print axioms Fh.Props.C13.clean_is_one_region_sends_outside
#print axioms Fh.Props.C13.all_sends_are_blocking
#print axioms Fh.Props.C13.stop_is_one_region
#print axioms Fh.Props.C13.workerFunc_exit_is_one_region
#print axioms Fh.Props.C13.workersCount_written_only_by_getCh_and_exit
