/-
C12 — Concurrency and per-IP limits hold and their counters balance.
Every theorem quantifies over ARBITRARY event lists of `Model.Srv.step` from `State.init cfg`: every interleaving of `Serve`
loops, `ServeConn` calls, worker-pool steps, hijack goroutines and closes, one event per atomic counter update.
`Concurrency` is documented to work "only if you either call Serve once, or only ServeConn multiple times":
`serving_le_concurrency` carries that precondition, `serving_le_concurrency_per_entry` is the unconditional fact behind it,
and the example after it shows the precondition is needed.
Residue (named in the evidence): each modelled step is atomic in the Go code (C37); blocked goroutines get scheduled.
-/
import FhVerif.Proofs.ServerCounters
import FhVerif.Gen.PerIPClose
import FhVerif.Gen.WpCount

namespace Fh.Props.C12
open Fh Fh.Wsum Fh.Model.Srv Fh.Proofs.Srv

/-- **Concurrency, per entry point.**  At no moment are more than `Concurrency` connections of one `Serve` call, nor more
    than `Concurrency` connections handed to `ServeConn`, inside the request loop. -/
theorem serving_le_concurrency_per_entry (cfg : Cfg) (evs : List Ev) (s : State)
    (hr : run (State.init cfg) evs = some s) (path : Path) : servingOn s path ≤ cfg.C := by
  obtain ⟨hinv, hg, hcfg⟩ := reach hr
  rw [← hcfg]
  cases path with
  | direct =>
    -- a `ServeConn` connection in the request loop holds the gauge for good
    refine Nat.le_trans (wsum_le _ (hConc s.cfg.C) _ fun c _ => ?_) hinv.hold
    split
    · rename_i h; unfold hConc; rw [h.1, h.2]; exact Nat.le_refl 1
    · exact Nat.zero_le _
  | serve p =>
    -- a connection of loop `p` in the request loop occupies one of its workers
    have hle : servingOn s (.serve p) ≤ wsum (wBusy p) s.conns := by
      refine wsum_le _ _ _ fun c _ => ?_
      split
      · rename_i h; unfold wBusy; rw [h.1, h.2]; simp
      · exact Nat.zero_le _
    cases hp : s.pools[p]? with
    | some pl => have := hinv.pool p pl hp; omega
    | none => rw [hg p (List.getElem?_eq_none_iff.mp hp)] at hle; omega

/-- **Concurrency.**  Used as documented, the server never has more than `Concurrency` connections inside the request
    loop. -/
theorem serving_le_concurrency (cfg : Cfg) (evs : List Ev) (s : State)
    (hr : run (State.init cfg) evs = some s) (hone : SingleEntry s) : servingAll s ≤ cfg.C := by
  obtain ⟨path, hp⟩ := hone
  have : servingAll s = servingOn s path := wsum_congr _ _ _ fun c hc => by simp [hp c hc]
  exact this ▸ serving_le_concurrency_per_entry cfg evs s hr path

/-- the documented precondition of `Concurrency` is needed: one `Serve` loop plus `ServeConn`, Concurrency 1 — two
    connections are inside the request loop at once -/
example : ((run (State.init ⟨1, 0, false⟩)
    [.direct 0, .conn 0 .skipWrap, .conn 0 .acqAdd, .conn 0 .acqDecide, .conn 0 .openInc, .conn 0 .startServing,
     .serveStart, .accept 0 0, .conn 1 .skipWrap, .conn 1 .openInc, .conn 1 .getCh, .conn 1 .concInc]).map fun s =>
      (servingAll s, servingOn s .direct, servingOn s (.serve 0), s.conc)) = some (2, 1, 1, 2) := rfl

/-- **Per-IP limit.**  With `MaxConnsPerIP = M > 0`, at no moment do more than `M` connections from one address hold a
    per-IP registration (wrapped and not yet closed, hijacked ones included) — for every mix of entry points. -/
theorem perip_le_max (cfg : Cfg) (evs : List Ev) (s : State)
    (hr : run (State.init cfg) evs = some s) (hM : 0 < cfg.M) (ip : Nat) : liveFromIP s ip ≤ cfg.M := by
  obtain ⟨hinv, _, hcfg⟩ := reach hr
  rw [← hcfg] at hM ⊢
  refine Nat.le_trans (wsum_le _ (hIP s.cfg.M ip) _ fun c hc => ?_) (hinv.iphold ip hM)
  cases hnt : isIpTest c.phase
  · rw [hIP_eq_reg hnt]; exact Nat.le_refl _
  · simp [(hinv.cn c hc).early (.inr hnt)]

/-- **Rejected connections.**  A connection answered with 429 or 503 was never inside the request loop, is closed, holds
    no per-IP registration and was never hijacked. -/
theorem rejected_get_error_and_close (cfg : Cfg) (evs : List Ev) (s : State)
    (hr : run (State.init cfg) evs = some s) (c : Conn) (hc : c ∈ s.conns)
    (hrej : c.phase = .done .r429 ∨ c.phase = .done .r503) :
    c.served = false ∧ c.closed = true ∧ c.reg = false ∧ c.hj = .none := by
  have hci := (reach hr).inv.cn c hc
  obtain ⟨hpre, hdone⟩ : preServing c.phase = true ∧ isDone c.phase = true := by
    rcases hrej with h | h <;> rw [h] <;> exact ⟨rfl, rfl⟩
  have hcl := hci.rej hdone hpre
  exact ⟨(hci.pre hpre).1, hcl, hci.closed_noreg hcl, (hci.pre hpre).2.1⟩

private theorem set_self {l : List Conn} {i : Nat} {c c' : Conn} (hc : l[i]? = some c) : (l.set i c')[i]? = some c' :=
  List.getElem?_set_self (List.getElem?_eq_some_iff.mp hc).1

private theorem run_conn {s s1 : State} {i : Nat} {c c1 : Conn} {a : Act} (es : List Ev) (hc : s.conns[i]? = some c)
    (ha : act s c a = some (s1, c1)) : run s (.conn i a :: es) = run { s1 with conns := s.conns.set i c1 } es := by
  simp only [run, step, hc, ha]

/-- **Extra connection, `ServeConn`.**  While the gauge is full, the next `ServeConn` call is not served: its add returns
    a value above the limit, it undoes the add, writes 503 and closes; the gauge is back where it was. -/
theorem extra_connection_gets_503_serveconn (cfg : Cfg) (evs : List Ev) (s : State)
    (hr : run (State.init cfg) evs = some s) (hfull : cfg.C ≤ s.conc) (i : Nat) (c : Conn)
    (hc : s.conns[i]? = some c) (hpath : c.path = .direct) (hph : c.phase = .wrapped) (err : Bool) :
    ∃ s', run s [.conn i .acqAdd, .conn i .acqDecide, .conn i (.rejectClose err)] = some s' ∧
      s'.conc = s.conc ∧ s'.opn = s.opn ∧
      ∃ c', s'.conns[i]? = some c' ∧ c'.phase = .done .r503 ∧ c'.closed = true ∧ c'.served = false ∧ c'.reg = false := by
  obtain ⟨hinv, _, hcfg⟩ := reach hr
  have hsv : c.served = false := ((hinv.cn c (List.mem_of_getElem? hc)).pre (by rw [hph]; rfl)).1
  have hgt : ¬ (s.conc + 1 ≤ s.cfg.C) := by rw [hcfg]; omega
  obtain ⟨path, cip, phase, reg, closed, served, hj⟩ := c
  cases hpath; cases hph; cases hsv
  refine ⟨_, Eq.trans (run_conn _ hc rfl) <| Eq.trans (run_conn _ (set_self hc) (if_neg hgt)) <|
    run_conn [] (set_self (set_self hc)) rfl, ?_, ?_, _, set_self (set_self (set_self hc)), rfl, rfl, rfl, rfl⟩ <;>
    simp only [closeS_eq, Nat.add_sub_cancel]

/-- **Extra connection, `Serve`.**  While all `Concurrency` workers of a `Serve` call are busy, the next accepted
    connection is not served: `wp.Serve` finds no worker, `open` is restored, 503 is written, the connection closed. -/
theorem extra_connection_gets_503_serve (cfg : Cfg) (evs : List Ev) (s : State)
    (hr : run (State.init cfg) evs = some s) (p : Nat) (pl : Pool) (hp : s.pools[p]? = some pl)
    (hfull : pl.idle = 0 ∧ pl.workers = cfg.C) (i : Nat) (c : Conn)
    (hc : s.conns[i]? = some c) (hpath : c.path = .serve p) (hph : c.phase = .counted) (err : Bool) :
    ∃ s', run s [.conn i .getCh, .conn i .openDec, .conn i (.rejectClose err)] = some s' ∧
      s'.conc = s.conc ∧ s'.opn = s.opn - 1 ∧
      ∃ c', s'.conns[i]? = some c' ∧ c'.phase = .done .r503 ∧ c'.closed = true ∧ c'.served = false ∧ c'.reg = false := by
  obtain ⟨hinv, _, hcfg⟩ := reach hr
  have hsv : c.served = false := ((hinv.cn c (List.mem_of_getElem? hc)).pre (by rw [hph]; rfl)).1
  have hnl : ¬ (pl.workers < s.cfg.C) := by rw [hcfg]; omega
  have hni : ¬ (pl.idle > 0) := by omega
  have h1 : act s c .getCh = some (s, { c with phase := .noWorker }) := by
    dsimp only [act]; rw [hpath, hph]; dsimp only; rw [hp]; dsimp only; rw [if_neg hni, if_neg hnl]
  obtain ⟨path, cip, phase, reg, closed, served, hj⟩ := c
  cases hpath; cases hph; cases hsv
  refine ⟨_, Eq.trans (run_conn _ hc h1) <| Eq.trans (run_conn _ (set_self hc) rfl) <|
    run_conn [] (set_self (set_self hc)) rfl, ?_, ?_, _, set_self (set_self (set_self hc)), rfl, rfl, rfl, rfl⟩ <;>
    simp only [closeS_eq]

/-- **Extra connection, per IP.**  While `MaxConnsPerIP` connections from an address are registered, the next one from
    it (through either entry point) gets 429 and is closed; the count is back where it was. -/
theorem extra_connection_gets_429 (cfg : Cfg) (evs : List Ev) (s : State)
    (hr : run (State.init cfg) evs = some s) (hM : 0 < cfg.M) (i : Nat) (c : Conn)
    (hc : s.conns[i]? = some c) (hph : c.phase = .fresh) (hip : c.ip ≠ 0) (hfull : cfg.M ≤ s.perIP c.ip) :
    ∃ s', run s [.conn i .register, .conn i .ipDecide] = some s' ∧
      s'.perIP c.ip = s.perIP c.ip ∧ s'.conc = s.conc ∧ s'.opn = s.opn ∧
      ∃ c', s'.conns[i]? = some c' ∧ c'.phase = .done .r429 ∧ c'.closed = true ∧ c'.served = false ∧ c'.reg = false := by
  obtain ⟨hinv, _, hcfg⟩ := reach hr
  have hci := hinv.cn c (List.mem_of_getElem? hc)
  have hsv : c.served = false := (hci.pre (by rw [hph]; rfl)).1
  have hrg : c.reg = false := hci.early (.inl hph)
  have hcnt : counted s.cfg c = true := by simp [counted, hcfg, hM, hip]
  have hgt : s.perIP c.ip + 1 > s.cfg.M := by rw [hcfg]; omega
  obtain ⟨path, cip, phase, reg, closed, served, hj⟩ := c
  cases hph; cases hsv; cases hrg
  refine ⟨_, Eq.trans (run_conn _ hc (if_pos ⟨rfl, hcnt⟩)) (run_conn [] (set_self hc) (if_pos hgt)), ?_, rfl, rfl, _,
    set_self (set_self hc), rfl, rfl, rfl, rfl⟩
  show ipDec (ipInc s.perIP cip) cip cip = s.perIP cip
  simp [ipDec, ipInc]

private theorem act_close {s s1 : State} {c c1 : Conn} {a : Act} {err : Bool}
    (ha : a = .closeConn err ∨ a = .rejectClose err ∨ a = .hijackClose err ∨ a = .userClose err)
    (hcl : c.hj = .none ∨ ∀ err, a ≠ .closeConn err) (h : act s c a = some (s1, c1)) :
    s1 = closeS s c err ∧ c1.reg = false ∧ c1.closed = true := by
  rcases ha with rfl | rfl | rfl | rfl <;> dsimp only [act] at h <;> split at h
  · split at h <;> cases h
    · exact ⟨rfl, rfl, rfl⟩
    · rcases hcl with e | e
      · contradiction
      · exact absurd rfl (e err)
  all_goals cases h
  all_goals exact ⟨rfl, rfl, rfl⟩

/-- **A failing transport Close releases the registration all the same.**  Whatever the transport's `Close` reports,
    every `c.Close()` of the server (after the request loop, after a 503, by `hijackConnHandler`, by the owner of a kept
    hijacked connection) takes exactly the connection's one unit off the address's count. -/
theorem close_error_still_unregisters (cfg : Cfg) (evs : List Ev) (s : State)
    (hr : run (State.init cfg) evs = some s) (i : Nat) (c : Conn) (hc : s.conns[i]? = some c)
    (a : Act) (ha : ∃ err, a = .closeConn err ∨ a = .rejectClose err ∨ a = .hijackClose err ∨ a = .userClose err)
    (s' : State) (hstep : step s (.conn i a) = some s') (hcl : c.hj = .none ∨ ∀ err, a ≠ .closeConn err) :
    ∃ c', s'.conns[i]? = some c' ∧ c'.reg = false ∧ c'.closed = true ∧
      s'.perIP c.ip + (if c.reg then 1 else 0) = s.perIP c.ip ∧ ∀ ip, ip ≠ c.ip → s'.perIP ip = s.perIP ip := by
  have hge := ip_ge (reach hr).inv (List.mem_of_getElem? hc) c.ip
  obtain ⟨err, ha⟩ := ha
  simp only [step, hc] at hstep
  split at hstep <;> cases hstep
  rename_i s1 c1 hact
  obtain ⟨rfl, hreg, hclosed⟩ := act_close ha hcl hact
  refine ⟨c1, set_self hc, hreg, hclosed, ?_⟩
  simp only [closeS_eq]
  cases hr : c.reg
  · exact ⟨rfl, fun _ _ => rfl⟩
  · have h1 : 1 ≤ s.perIP c.ip := by simpa [wIP, hr] using hge
    exact ⟨by simp only [ipDec, if_true]; omega, fun ip hne => if_neg hne⟩

/-- The shape of peripconn.go the previous theorem relies on, regenerated on every run: both `perIPConn.Close` and
    `perIPTLSConn.Close` call `Unregister` as a statement of their own body, and the only return before it is the
    `cc == nil` test of a wrapper that was already closed. -/
theorem close_always_reaches_unregister :
    Gen.perIPConn_Close_unregisterTopLevel = true ∧ Gen.perIPConn_Close_earlyReturnGuards = ["cc == nil"] ∧
    Gen.perIPTLSConn_Close_unregisterTopLevel = true ∧ Gen.perIPTLSConn_Close_earlyReturnGuards = ["cc == nil"] := by
  decide

/-- **Concurrent closers.**  Of the parties closing one wrapped connection exactly one owns the transport: both Close
    methods set `c.Conn = nil` in their first lock region, BEFORE the transport's Close (regenerated from peripconn.go),
    so every other caller finds `cc == nil`.  In the model that caller is `dupClose`: enabled exactly when the wrapper
    holds no registration, and it changes nothing. -/
theorem second_close_is_noop (s : State) (i : Nat) (c : Conn) (hc : s.conns[i]? = some c) :
    Gen.perIPConn_Close_nilOutUnderLockBeforeTransportClose = true ∧
    Gen.perIPTLSConn_Close_nilOutUnderLockBeforeTransportClose = true ∧
    (c.reg = true → step s (.conn i .dupClose) = none) ∧
    (c.reg = false → ∃ s', step s (.conn i .dupClose) = some s' ∧ s'.perIP = s.perIP ∧ s'.conc = s.conc ∧
      s'.opn = s.opn ∧ s'.conns[i]? = some c) := by
  refine ⟨by decide, by decide, fun h => ?_, fun h => ⟨{ s with conns := s.conns.set i c }, ?_, rfl, rfl, rfl, set_self hc⟩⟩ <;>
    simp [step, hc, act, h]

/-- **Idle retirement cannot raise the capacity.**  In every reachable state — in particular after `cleanIdle` and
    `workerExit` — a pool's `workersCount` is exactly its idle + retiring + busy workers and never exceeds `Concurrency`. -/
theorem pool_accounting (cfg : Cfg) (evs : List Ev) (s : State)
    (hr : run (State.init cfg) evs = some s) (p : Nat) (pl : Pool) (hp : s.pools[p]? = some pl) :
    pl.workers = pl.idle + pl.stopping + wsum (wBusy p) s.conns ∧ pl.workers ≤ cfg.C := by
  obtain ⟨hinv, _, rfl⟩ := reach hr
  exact hinv.pool p pl hp

/-- when `Concurrency` workers are busy, `hfull` of `extra_connection_gets_503_serve` holds -/
theorem busy_pool_is_full (cfg : Cfg) (evs : List Ev) (s : State)
    (hr : run (State.init cfg) evs = some s) (p : Nat) (pl : Pool) (hp : s.pools[p]? = some pl)
    (hbusy : wsum (wBusy p) s.conns = cfg.C) : pl.idle = 0 ∧ pl.workers = cfg.C := by
  have := pool_accounting cfg evs s hr p pl hp
  omega

/-- The shape of workerpool.go the pool accounting relies on (regenerated): `workersCount` is written in
    exactly two places — `++` when `getCh` starts a worker, `--` when a worker's goroutine leaves `workerFunc` (the
    model's `workerExit`, and `workerRelease` under `mustStop`); `clean` and `Stop` only tell workers to stop. -/
theorem workersCount_written_in_two_places : Gen.wpWorkersCountWrites = ["getCh:++", "workerFunc:--"] := by
  decide

/-- **Balance.**  Once every connection has been rejected, or served and closed (a hijacked one: by `hijackConnHandler`
    or by its owner), the gauge and every per-IP count are 0 and `s.open` is the number of running `Serve` loops. -/
theorem balanced_at_quiescence (cfg : Cfg) (evs : List Ev) (s : State)
    (hr : run (State.init cfg) evs = some s) (hq : Quiescent s) :
    s.conc = 0 ∧ (∀ ip, s.perIP ip = 0) ∧ s.opn = (s.serves : Int) ∧ s.serves = wsum running s.pools := by
  obtain ⟨hinv, _, _⟩ := reach hr
  -- a finished connection holds nothing: its phase is `done`, and being closed it has no registration
  have hz : ∀ c ∈ s.conns, wConc c = 0 ∧ wOpen c = 0 ∧ ∀ ip, wIP ip c = 0 := fun c hc => by
    obtain ⟨⟨r, hr⟩, hcl, _⟩ := hq c hc
    refine ⟨?_, ?_, fun ip => ?_⟩
    · unfold wConc; rw [hr]; cases c.path <;> rfl
    · unfold wOpen; rw [hr]
    · simp [wIP, hr, isIpTest, (hinv.cn c hc).closed_noreg hcl]
  refine ⟨hinv.conc.trans (wsum_eq_zero _ _ fun c hc => (hz c hc).1),
    fun ip => (hinv.ip ip).trans (wsum_eq_zero _ _ fun c hc => (hz c hc).2.2 ip), ?_, hinv.serves⟩
  rw [hinv.opn, wsum_eq_zero _ _ fun c hc => (hz c hc).2.1]
  rfl

/-- **Getter view.**  At quiescence `GetCurrentConcurrency()` and `GetOpenConnectionsCount()` return 0, however many
    `Serve` loops are running (also none: only `ServeConn` was used). -/
theorem getters_zero_at_quiescence (cfg : Cfg) (evs : List Ev) (s : State)
    (hr : run (State.init cfg) evs = some s) (hq : Quiescent s) : getConc s = 0 ∧ getOpen s = 0 := by
  obtain ⟨h1, _, h3, _⟩ := balanced_at_quiescence cfg evs s hr hq
  exact ⟨h1, by unfold getOpen; omega⟩

/-- `GetOpenConnectionsCount()` is never negative and counts the connections between `open.Add(1)` and
    `open.Add(-1)`; the gauge counts its holders. -/
theorem getters_count_connections (cfg : Cfg) (evs : List Ev) (s : State)
    (hr : run (State.init cfg) evs = some s) :
    getOpen s = ((wsum wOpen s.conns : Nat) : Int) ∧ getConc s = wsum wConc s.conns := by
  obtain ⟨hinv, _, _⟩ := reach hr
  exact ⟨by unfold getOpen; have := hinv.opn; omega, hinv.conc⟩

private def cfg1 : Cfg := ⟨1, 1, false⟩

/-- `ServeConn` only, Concurrency 1: the first connection (ip 7) is served; the second (ip 8) adds (gauge 2 > 1, the
    overshoot); the examples go on from there: it gets 503, a third from ip 7 gets 429 -/
private def twoDirect : List Ev :=
  [.direct 7, .conn 0 .register, .conn 0 .ipDecide, .conn 0 .acqAdd, .conn 0 .acqDecide, .conn 0 .openInc,
   .conn 0 .startServing,
   .direct 8, .conn 1 .register, .conn 1 .ipDecide, .conn 1 .acqAdd]

example : ((run (State.init cfg1) twoDirect).map fun s => (s.conc, s.opn, s.perIP 7, s.perIP 8, servingAll s)) =
    some (2, 1, 1, 1, 1) := rfl
example : ((run (State.init cfg1) (twoDirect ++ [.conn 1 .acqDecide, .conn 1 (.rejectClose false),
    .direct 7, .conn 2 .register, .conn 2 .ipDecide])).map fun s =>
      (s.conc, s.opn, s.perIP 7, s.perIP 8, s.conns.map fun c => c.phase)) =
    some (1, 1, 1, 0, [.serving, .done .r503, .done .r429]) := rfl

/-- … and once the served connection is closed all is back to zero although no `Serve` ever ran -/
example : ((run (State.init cfg1) (twoDirect ++ [.conn 1 .acqDecide, .conn 1 (.rejectClose false),
    .conn 0 .cleanupOpen, .conn 0 (.closeConn true), .conn 0 .releaseConc])).map fun s =>
      (getConc s, getOpen s, s.perIP 7, s.perIP 8)) = some (0, 0, 0, 0) := rfl

/-- one `Serve` loop, hijack with KeepHijackedConns off: the per-IP registration lives until `hijackConnHandler`
    closes the connection; `GetOpenConnectionsCount` is 0 with the loop still running -/
example : ((run (State.init cfg1)
    [.serveStart, .accept 0 7, .conn 0 .register, .conn 0 .ipDecide, .conn 0 .openInc, .conn 0 .getCh, .conn 0 .concInc,
     .conn 0 .hijackStart, .conn 0 .cleanupOpen, .conn 0 .cleanupConc, .conn 0 (.closeConn true), .conn 0 .workerRelease,
     .conn 0 .hijackReturn]).map fun s => (getConc s, getOpen s, s.opn, s.perIP 7)) = some (0, 0, 1, 1) := rfl
example : ((run (State.init cfg1)
    [.serveStart, .accept 0 7, .conn 0 .register, .conn 0 .ipDecide, .conn 0 .openInc, .conn 0 .getCh, .conn 0 .concInc,
     .conn 0 .hijackStart, .conn 0 .cleanupOpen, .conn 0 .cleanupConc, .conn 0 (.closeConn true), .conn 0 .workerRelease,
     .conn 0 .hijackReturn, .conn 0 (.hijackClose true), .serveStop 0]).map fun s =>
      (getConc s, getOpen s, s.opn, s.perIP 7, s.serves)) = some (0, 0, 0, 0, 0) := rfl

/-- the sequential accept loop: a second `accept` is not enabled while the first connection is still in the loop -/
example : ((run (State.init cfg1) [.serveStart, .accept 0 7, .accept 0 8]).map fun s => s.conc) = none := rfl

/-- Concurrency 1, one `Serve` loop: a connection is served and closed, the cleaner retires the idle worker, it leaves;
    of the next two connections one is handed to a new worker, the other finds none -/
example : ((run (State.init ⟨1, 0, false⟩)
    [.serveStart, .accept 0 0, .conn 0 .skipWrap, .conn 0 .openInc, .conn 0 .getCh, .conn 0 .concInc,
     .conn 0 .cleanupOpen, .conn 0 .cleanupConc, .conn 0 (.closeConn false), .conn 0 .workerRelease,
     .cleanIdle 0, .workerExit 0,
     .accept 0 0, .conn 1 .skipWrap, .conn 1 .openInc, .conn 1 .getCh, .conn 1 .concInc,
     .accept 0 0, .conn 2 .skipWrap, .conn 2 .openInc, .conn 2 .getCh]).map fun s =>
      (s.pools.map (fun pl => (pl.workers, pl.idle, pl.stopping)), s.conns.map (·.phase), servingAll s)) =
    some ([(1, 0, 0)], [.done .served, .serving, .noWorker], 1) := rfl

/-- between the cleaner's stop request and the worker's exit the slot is still taken: a connection arriving then is
    refused although nothing is being served -/
example : ((run (State.init ⟨1, 0, false⟩)
    [.serveStart, .accept 0 0, .conn 0 .skipWrap, .conn 0 .openInc, .conn 0 .getCh, .conn 0 .concInc,
     .conn 0 .cleanupOpen, .conn 0 .cleanupConc, .conn 0 (.closeConn false), .conn 0 .workerRelease,
     .cleanIdle 0, .accept 0 0, .conn 1 .skipWrap, .conn 1 .openInc, .conn 1 .getCh]).map fun s =>
      (s.conns.map (·.phase), servingAll s)) = some ([.done .served, .noWorker], 0) := rfl

/-- a second closer arriving after the owner took the wrapper changes nothing; before that it is not this event -/
example : ((run (State.init cfg1) (twoDirect.take 7 ++ [.conn 0 .cleanupOpen, .conn 0 (.closeConn false), .conn 0 .dupClose,
    .conn 0 .dupClose, .conn 0 .releaseConc])).map fun s => (getConc s, getOpen s, s.perIP 7)) = some (0, 0, 0) := rfl
example : (run (State.init cfg1) (twoDirect.take 7 ++ [.conn 0 .dupClose])).map (·.conc) = none := rfl

end Fh.Props.C12

/-! ### what the theorems of this file rest on -/
#print axioms Fh.Props.C12.serving_le_concurrency_per_entry
#print axioms Fh.Props.C12.serving_le_concurrency
#print axioms Fh.Props.C12.perip_le_max
#print axioms Fh.Props.C12.rejected_get_error_and_close
#print axioms Fh.Props.C12.extra_connection_gets_503_serveconn
#print axioms Fh.Props.C12.extra_connection_gets_503_serve
#print axioms Fh.Props.C12.extra_connection_gets_429
#print axioms Fh.Props.C12.close_error_still_unregisters
#print axioms Fh.Props.C12.close_always_reaches_unregister
#print axioms Fh.Props.C12.second_close_is_noop
#print axioms Fh.Props.C12.pool_accounting
#print axioms Fh.Props.C12.busy_pool_is_full
#print axioms Fh.Props.C12.workersCount_written_in_two_places
#print axioms Fh.Props.C12.balanced_at_quiescence
#print axioms Fh.Props.C12.getters_zero_at_quiescence
#print axioms Fh.Props.C12.getters_count_connections
