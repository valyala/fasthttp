/-
C36 — fasthttpadaptor handlers behave like the same handler under net/http.   Level: proof, partial.

The model mirrors adaptor.go's `writer` and request.go after the `fix:` commits.  Response half: proved for every
handler program with valid codes that leaves Content-Length to the server; the repaired defects stay as theorems about
the behaviour before the fixes (`adaptor_old_*`, `convert_old_counterexample`).  Request half: proved inside `Plain`
(neither parser adds or moves a framing field); outside it the two parsers differ — the recorded findings
(`convert_eq_reference_parse_counterexample`) — so `C36_full` is false.
Not proved (residue): that fasthttp transmits the header fields and body handed to ctx.Response unchanged (C03/C29),
the tokenisation of requests (C01/C09), url.ParseRequestURI; interim 1xx responses are not sent by the adaptor at all
(the statement is about the final response); Hijack, trailers, panicking handlers are outside the statement.
-/
import FhVerif.Proofs.Adaptor
import FhVerif.Gen.Adaptor
import FhVerif.Base.OfString

namespace Fh.Props.C36
open Fh Fh.Spec.NH Fh.Model.Adaptor Fh.Proofs.Adaptor

/-- C36, response half: for every well-formed handler program the adaptor's final response is the reference's. -/
theorem adaptor_final_eq_reference (p : List HOp) (hp : wellFormed p) : adaptor p = reference p := by
  obtain ⟨hs, hw, hf⟩ := (sim_run p hp).final
  unfold adaptor reference
  simp only [hs, hw, hf, Bool.false_eq_true, if_false]

/-- in particular no well-formed program panics -/
theorem adaptor_defined (p : List HOp) (hp : wellFormed p) : (adaptor p).isSome = true := by
  simp [adaptor, (sim_run p hp).final.2.1]

/-- regenerated structural fact (extract/adaptor_c36.go): the model gives the response its own copy of the handler's bytes
    (`W.final` returns values); the code does the same as long as the pooled writer buffer `w.responseBody` — returned to
    the package-level sync.Pool by `releaseWriter` right after the response was filled in — is handed to fasthttp with a
    COPYING call and never with an aliasing one: after the adaptor handler returns, the response owns its body. -/
theorem buffered_body_is_copied :
    "SetBody" ∈ Gen.adaptorCtxCalls ∧ "SetBodyRaw" ∉ Gen.adaptorCtxCalls ∧ "SwapBody" ∉ Gen.adaptorCtxCalls ∧
    "SetBodyStream" ∉ Gen.adaptorCtxCalls := by decide +kernel

/-! handler-set Content-Length (outside `wellFormed`, which leaves the field to the server) -/
def clProg : List HOp := [.set sContentLength (ofString "5"), .write (ofString "hello")]

/-- buffered answers keep the handler's Content-Length (a HEAD answer that only declares its length included) -/
theorem content_length_kept_when_buffered :
    adaptor clProg = reference clProg ∧
    adaptor [.set sContentLength (ofString "1234")] = reference [.set sContentLength (ofString "1234")] := by decide +kernel

/-- recorded finding content-length-dropped-when-streaming: after a Flush the adaptor sends no Content-Length -/
theorem content_length_streaming_counterexample :
    (adaptor (clProg ++ [.flush])).map (fun r => Hdr.values r.header sContentLength) = some [] ∧
    (reference (clProg ++ [.flush])).map (fun r => Hdr.values r.header sContentLength) = some [ofString "5"] := by decide +kernel

def xAfter : Bytes := ofString "X-After"
def one : Bytes := ofString "1"

/-- the design-round witness: WriteHeader(103); WriteHeader(201); Header().Add("X-After","1"); Write("x") -/
def witness : List HOp := [.writeHeader 103, .writeHeader 201, .add xAfter one, .write (ofString "x")]

/-- before the fix the informational code became the final status (and the body was dropped) -/
theorem adaptor_old_status_counterexample :
    (adaptorOld witness).map (·.status) = some 103 ∧ (reference witness).map (·.status) = some 201 := by decide +kernel

/-- before the fix a header added after the status was fixed was sent -/
theorem adaptor_old_late_header_counterexample :
    (adaptorOld witness).map (fun r => Hdr.values r.header xAfter) = some [one] ∧
    (reference witness).map (fun r => Hdr.values r.header xAfter) = some [] := by decide +kernel

/-- before the fix Write did not fix the status: Write; WriteHeader(404) answered 404 instead of 200 -/
theorem adaptor_old_write_counterexample :
    (adaptorOld [.write (ofString "x"), .writeHeader 404]).map (·.status) = some 404 ∧
    (reference [.write (ofString "x"), .writeHeader 404]).map (·.status) = some 200 := by decide +kernel

/-- so the old writer did not satisfy the theorem -/
theorem adaptor_old_counterexample : ¬ (∀ p, wellFormed p → adaptorOld p = reference p) := by
  intro h
  have := h witness (by decide +kernel)
  exact absurd this (by decide +kernel)

/-- after the fix the same programs agree (instances of `adaptor_final_eq_reference`, evaluated) -/
example : adaptor witness = some ⟨201, [], ofString "x"⟩ ∧ reference witness = some ⟨201, [], ofString "x"⟩ := by
  simp only [ofString_eq]
  decide +kernel
example : wellFormed witness := by decide +kernel
example : referenceInterim witness = [103] := by decide +kernel
example : adaptor [.add xAfter one, .add xAfter (ofString "2"), .flush, .set xAfter (ofString "3"), .write (ofString "b"), .writeHeader 500] =
    some ⟨200, [(xAfter, one), (xAfter, ofString "2")], ofString "b"⟩ := by
  simp only [ofString_eq]
  decide +kernel

/-- equality of what C36 compares of two http.Requests: Host case-insensitively, header fields per name -/
structure ReqEquiv (a b : HReq) : Prop where
  method : a.method = b.method
  uri : a.requestURI = b.requestURI
  proto : a.proto = b.proto
  major : a.major = b.major
  minor : a.minor = b.minor
  host : lowerB a.host = lowerB b.host
  header : ∀ k, Hdr.values a.header k = Hdr.values b.header k
  body : a.body = b.body

def singleton (k : Bytes) : Bool := k = sContentLength || k = sContentType || k = sUserAgent || k = sCookie

/-- requests inside the proved region: neither parser adds, drops or moves a field -/
structure Plain (q : TokReq) : Prop where
  /-- an HTTP/1.x request line -/
  version : ∃ m, parseHTTPVersion q.proto = some (1, m)
  /-- fasthttp's Content-Length view is the request's own field (no synthesized `Content-Length: 0`) -/
  noSynthCL : fhCL q = lastValue q.fields sContentLength
  /-- fasthttp's parser does not hand out / move a `Connection: close` -/
  noSynthClose : fhClose q = false
  /-- singleton fields occur at most once (RFC 9110 5.3) and are non-empty -/
  once : ∀ k, singleton k = true → (Hdr.values q.fields k).length ≤ 1
  nonEmpty : ∀ e ∈ q.fields, singleton e.1 = true → e.2 ≠ []
  /-- net/http does not add `Cache-Control: no-cache` for a lone `Pragma: no-cache` -/
  noPragmaFix : ¬ ((Hdr.values q.fields sPragma).head? = some sNoCache ∧ Hdr.values q.fields sCacheControl = [])

private theorem no_close_kept (l : List Bytes) (h : l.any (fun v => v = sClose || hasToken v sClose) = false) :
    l.filter (fun v => v ≠ sClose) = l := by
  refine List.filter_eq_self.mpr fun v hv => ?_
  have := (Bool.or_eq_false_iff.mp (List.any_eq_false.mp h v hv |> Bool.eq_false_iff.mpr)).1
  exact decide_eq_true (of_decide_eq_false this)

/-- the closed facts about header names used below, evaluated together: the five names fasthttp hands out from fields
    of their own are pairwise distinct, four of them singletons; Pragma and Cache-Control stay in r.Header -/
private theorem names_facts :
    (sContentLength ≠ sContentType ∧ sContentLength ≠ sUserAgent ∧ sContentLength ≠ sCookie ∧
      sContentLength ≠ sConnection ∧ sContentType ≠ sUserAgent ∧ sContentType ≠ sCookie ∧ sContentType ≠ sConnection ∧
      sUserAgent ≠ sCookie ∧ sUserAgent ≠ sConnection ∧ sCookie ≠ sConnection) ∧
    (singleton sContentLength = true ∧ singleton sContentType = true ∧ singleton sUserAgent = true ∧
      singleton sCookie = true) ∧
    (sPragma ≠ sHost ∧ sPragma ≠ sTransferEncoding) ∧ (sCacheControl ≠ sHost ∧ sCacheControl ≠ sTransferEncoding) := by
  decide +kernel

/-- Of the groups `fhAll` is made of, exactly one holds the fields named `k`: the group of its own for a special
    name, the group of ordinary fields otherwise. -/
private theorem one_segment (L : List Bytes) (k : Bytes) (hkH : k ≠ sHost) (hkT : k ≠ sTransferEncoding) :
    (if k = sContentLength then L else []) ++ (if k = sContentType then L else []) ++ (if k = sUserAgent then L else []) ++
      (if k = sCookie then L else []) ++ (if (!isSpecialReq k) = true then L else []) ++
      (if k = sConnection then L else []) = L := by
  obtain ⟨⟨n1, n2, n3, n4, n5, n6, n7, n8, n9, n10⟩, _⟩ := names_facts
  by_cases c1 : k = sContentLength
  · simp [isSpecialReq, c1, n1, n2, n3, n4]
  by_cases c2 : k = sContentType
  · simp [isSpecialReq, c2, n1.symm, n5, n6, n7]
  by_cases c3 : k = sUserAgent
  · simp [isSpecialReq, c3, n2.symm, n5.symm, n8, n9]
  by_cases c4 : k = sCookie
  · simp [isSpecialReq, c4, n3.symm, n6.symm, n8.symm, n10]
  by_cases c5 : k = sConnection
  · simp [isSpecialReq, c5, n4.symm, n7.symm, n9.symm, n10.symm]
  · simp [isSpecialReq, c1, c2, c3, c4, c5, hkH, hkT]

/-- inside `Plain`, fasthttp's field list is the request's own fields regrouped by name -/
private theorem values_fhAll (q : TokReq) (hq : Plain q) (k : Bytes) (hkH : k ≠ sHost) (hkT : k ≠ sTransferEncoding) :
    Hdr.values (fhAll q) k = Hdr.values q.fields k := by
  obtain ⟨_, hcl, hclose, honce, hne, _⟩ := hq
  obtain ⟨_, ⟨g1, g2, g3, g4⟩, _⟩ := names_facts
  have single := fun n (hn : singleton n = true) =>
    single_forms q.fields n (honce n hn) fun e he h => hne e he (h ▸ hn)
  have hkept : fhKept q = Hdr.values q.fields sConnection :=
    no_close_kept _ (Bool.or_eq_false_iff.mp hclose).1
  have segTE : Hdr.values (if fhChunked q = true then [(sTransferEncoding, sChunked)] else []) k = [] := by
    split
    · rw [values_single, if_neg hkT.symm]
    · rfl
  unfold fhAll
  rw [hclose, hcl, hkept, fhCookies, (single _ g1).1, (single _ g2).1, (single _ g3).1, (single _ g4).2, map_values]
  simp only [values_append, values_optField sHost, if_neg hkH.symm, values_filter_name,
    values_filter q.fields (fun n => !isSpecialReq n), segTE, Bool.false_eq_true, if_false,
    List.nil_append, List.append_nil]
  exact one_segment _ k hkH hkT

/-- C36, request half (partial): inside the region where no parser adds or moves a framing field, ConvertRequest
    yields what http.ReadRequest yields. -/
theorem convert_eq_reference_parse_partial (q : TokReq) (hq : Plain q) : ReqEquiv (convert q) (referenceParse q) := by
  obtain ⟨m, hver⟩ := hq.version
  have hnot2 : q.proto ≠ sHTTP2 := by
    intro h; rw [h, parse_http2] at hver; cases hver
  refine ⟨rfl, rfl, rfl, ?_, ?_, ?_, ?_, rfl⟩
  · show (if q.proto = sHTTP2 then 2 else 1) = ((parseHTTPVersion q.proto).getD (1, 1)).1
    rw [if_neg hnot2, hver]; rfl
  · rfl
  · show lowerB (fhHost q) = lowerB (hostOf q)
    unfold fhHost
    split
    · rfl
    · exact lowerB_idem _
  · -- header fields, name by name: both sides drop Host and Transfer-Encoding
    intro k
    have hpf : pragmaFix (q.fields.filter (fun e => e.1 ≠ sHost && e.1 ≠ sTransferEncoding)) =
        q.fields.filter (fun e => e.1 ≠ sHost && e.1 ≠ sTransferEncoding) := by
      obtain ⟨_, _, p1, p2⟩ := names_facts
      unfold pragmaFix
      rw [values_kept, values_kept, if_pos p1, if_pos p2, if_neg]
      intro hc
      rw [Bool.and_eq_true, decide_eq_true_eq, List.isEmpty_iff] at hc
      exact hq.noPragmaFix hc
    rw [convert_header, referenceParse_header, hpf, values_kept, values_kept]
    split
    · rename_i hk
      exact values_fhAll q hq k hk.1 hk.2
    · rfl

/-! the recorded findings: outside `Plain` the two parsers differ -/

def qDelete : TokReq := ⟨ofString "DELETE", ofString "/", sHTTP11, [(sHost, ofString "h")], []⟩
def qHttp10 : TokReq := ⟨sGET, ofString "/", ofString "HTTP/1.0", [(sHost, ofString "h")], []⟩
def qPragma : TokReq := ⟨sGET, ofString "/", sHTTP11, [(sHost, ofString "h"), (sPragma, sNoCache)], []⟩

/-- finding convert-framing-field-normalised / convert-pragma-cache-control: a body-capable method without
    Content-Length shows `Content-Length: 0`; an HTTP/1.0 request shows `Connection: close`; net/http adds
    `Cache-Control: no-cache` for `Pragma: no-cache`. -/
theorem convert_eq_reference_parse_counterexample :
    Hdr.values (convert qDelete).header sContentLength = [sZero] ∧ Hdr.values (referenceParse qDelete).header sContentLength = [] ∧
    Hdr.values (convert qHttp10).header sConnection = [sClose] ∧ Hdr.values (referenceParse qHttp10).header sConnection = [] ∧
    Hdr.values (convert qPragma).header sCacheControl = [] ∧ Hdr.values (referenceParse qPragma).header sCacheControl = [sNoCache] := by
  decide +kernel

/-- before the fixes: ProtoMinor was always 1 and Host was copied into r.Header -/
theorem convert_old_counterexample :
    (convertOld qHttp10).minor = 1 ∧ (referenceParse qHttp10).minor = 0 ∧ (convert qHttp10).minor = 0 ∧
    Hdr.values (convertOld qHttp10).header sHost = [ofString "h"] ∧ Hdr.values (referenceParse qHttp10).header sHost = [] ∧
    Hdr.values (convert qHttp10).header sHost = [] := by
  decide +kernel

/-- the property at full strength -/
def C36_full : Prop :=
  (∀ p : List HOp, wellFormed p → adaptor p = reference p) ∧ (∀ q : TokReq, ReqEquiv (convert q) (referenceParse q))

/-- the response half of `C36_full` holds … -/
theorem C36_full_response_half : ∀ p : List HOp, wellFormed p → adaptor p = reference p := adaptor_final_eq_reference

/-- … the request half does not (recorded findings), so `C36_full` is false for the tree under /repo -/
theorem C36_full_counterexample : ¬ C36_full := by
  intro h
  have := (h.2 qDelete).header sContentLength
  exact absurd this (by decide +kernel)

/-! non-vacuity of the request theorem -/
def qPost : TokReq :=
  ⟨ofString "POST", ofString "/a%20b?x=1", sHTTP11,
    [(sHost, ofString "EXAMPLE.com"), (ofString "X-A", ofString "1"), (sContentType, ofString "text/plain"),
     (ofString "X-A", ofString "2"), (sContentLength, ofString "2"), (sCookie, ofString "k=v")], ofString "hi"⟩

example : (convert qPost).host = ofString "example.com" ∧ (referenceParse qPost).host = ofString "EXAMPLE.com" := by
  simp only [ofString_eq]
  decide +kernel
example : Hdr.values (convert qPost).header (ofString "X-A") = [ofString "1", ofString "2"] := by
  simp only [ofString_eq]
  decide +kernel
example : fhCL qPost = lastValue qPost.fields sContentLength ∧ fhClose qPost = false ∧ parseHTTPVersion qPost.proto = some (1, 1) := by decide +kernel
example : fhClose ⟨sGET, ofString "/", ofString "HTTP/1.0", [(sConnection, sKeepAlive)], []⟩ = false := by
  simp only [ofString_eq]
  decide +kernel

end Fh.Props.C36

/-! ### what the theorems of this file rest on -/
#print axioms Fh.Props.C36.adaptor_final_eq_reference
#print axioms Fh.Props.C36.adaptor_defined
#print axioms Fh.Props.C36.buffered_body_is_copied
#print axioms Fh.Props.C36.content_length_kept_when_buffered
#print axioms Fh.Props.C36.content_length_streaming_counterexample
#print axioms Fh.Props.C36.adaptor_old_status_counterexample
#print axioms Fh.Props.C36.adaptor_old_late_header_counterexample
#print axioms Fh.Props.C36.adaptor_old_write_counterexample
#print axioms Fh.Props.C36.adaptor_old_counterexample
#print axioms Fh.Props.C36.convert_eq_reference_parse_partial
#print axioms Fh.Props.C36.convert_eq_reference_parse_counterexample
#print axioms Fh.Props.C36.convert_old_counterexample
#print axioms Fh.Props.C36.C36_full_response_half
#print axioms Fh.Props.C36.C36_full_counterexample
