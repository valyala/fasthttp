/-
C22 — Compression is transparent at every level of load.

`c : Codecs` are the third-party codecs with their round-trip laws as hypothesis FIELDS (`c.roundtrip`,
`c.roundtripStream`) — the residue of this property (level: proof, partial).  Everything fasthttp itself decides is
proved: which coding is chosen, when nothing is compressed, the Vary header, and that a compression call which
returned had its job run exactly once whatever the load on the stackless worker queue.
-/
import FhVerif.Proofs.CompressC22
import FhVerif.Base.OfString

namespace Fh.Props.C22
open Fh Fh.Model.C22 Fh.Proofs.CompressC22

/-- regenerated from /repo: every user of the stackless queue (stacklessWriteGzip/Deflate/Brotli/Zstd, (*writer).do)
    runs the job on the caller's goroutine when the queue is full; the queue capacity is GOMAXPROCS * 2048; the
    preference order of the two handler wrappers -/
theorem call_sites_run_inline_when_full :
    Gen.stacklessInlineOnFull = true ∧ Gen.stacklessWriterDoInline = true ∧
    Gen.stacklessSites.all (fun s => s.2.1 && s.2.2) = true ∧ Gen.stacklessSites.length = 4 ∧
    Gen.stacklessQueueFactor = 2048 ∧
    Gen.compressHandlerOrder = ["strGzip", "strDeflate", "strZstd"] ∧
    Gen.compressHandlerBrotliOrder = ["strBr", "strGzip", "strDeflate", "strZstd"] := by decide +kernel

/-- regenerated: `(*writer).do` falls back to the caller's goroutine whatever the operation (Reset of a re-acquired
    pooled writer like Write, Flush, Close); only so does one call of the queue model stand for every `do` -/
theorem writer_fallback_is_op_independent : Gen.stacklessWriterDoUniform = true := by decide +kernel

/-- C22: for any body (buffered or streamed), level and Accept-Encoding, the response of CompressHandlerLevel (and of
    CompressHandlerBrotliLevel, beneath) decodes, per the Content-Encoding it declares, to what the wrapped handler's does -/
theorem response_decodes_to_handler_body (c : Codecs) (level : Int) (ae : Bytes) (h : Resp) :
    decodeResp c (compressHandlerLevel c level ae h) = decodeResp c h :=
  handler_transparent c level level ae h _ (Or.inl rfl)

theorem response_decodes_to_handler_body_brotli (c : Codecs) (bl ol : Int) (ae : Bytes) (h : Resp) :
    decodeResp c (compressHandlerBrotliLevel c bl ol ae h) = decodeResp c h :=
  handler_transparent c bl ol ae h _ (Or.inr rfl)

/-- for a handler that did not encode the body itself, either wrapper's response decodes to the handler's body bytes -/
theorem response_decodes_to_plain_handler_body (c : Codecs) (bl ol : Int) (ae : Bytes) (h : Resp) (hce : h.ce = []) :
    decodeResp c (compressHandlerLevel c ol ae h) = some h.body.bytes ∧
    decodeResp c (compressHandlerBrotliLevel c bl ol ae h) = some h.body.bytes := by
  rw [response_decodes_to_handler_body, response_decodes_to_handler_body_brotli, decodeResp, hce, kindOfName_nil]
  exact ⟨rfl, rfl⟩

/-- a list element of a comma-separated field value: delimited by commas (or the ends), containing none -/
def IsElement (e s : Bytes) : Prop :=
  ∃ l r, s = l ++ e ++ r ∧ (l = [] ∨ l.getLast? = some 44) ∧ (r = [] ∨ r.head? = some 44) ∧ (44 : UInt8) ∉ e

/-- what HasAcceptEncodingBytes = true means: the coding name ends a list element of the Accept-Encoding value —
    so it carries no parameters, in particular no `;q=0` — and inside that element follows nothing or a space -/
theorem hasAcceptEncoding_meaning (ae name : Bytes) (hn : (44 : UInt8) ∉ name)
    (h : hasAcceptEncoding ae name = true) :
    ∃ e w, IsElement e ae ∧ e = w ++ name ∧ (w = [] ∨ w.getLast? = some 32) := by
  unfold hasAcceptEncoding at h
  split at h
  · cases h
  · next pre post hs =>
    simp only [Bool.and_eq_true, Bool.or_eq_true, beq_iff_eq, List.isEmpty_iff] at h
    obtain ⟨l, w, rfl, hl, hw⟩ := split_last_comma pre
    refine ⟨w ++ name, w, ⟨l, post, ?_, hl, h.1, fun hm => (List.mem_append.mp hm).elim hw hn⟩, rfl, ?_⟩
    · rw [splitFirst_eq name ae _ post hs, List.append_assoc l w name]
    · -- the byte before the name is the last byte of `w`, unless `w` is empty
      cases w with
      | nil => exact Or.inl rfl
      | cons x w' => exact Or.inr (by simpa [List.getLast?_append, List.getLast?_cons] using h.2)

/-- C22: the response uses only an encoding the request accepts: a Content-Encoding changed by a handler wrapper is
    one of gzip/deflate/br/zstd for which `HasAcceptEncodingBytes` holds, i.e. one listed without parameters -/
theorem encoding_is_accepted (c : Codecs) (bl ol : Int) (ae : Bytes) (h : Resp) :
    (∀ out, out = compressHandlerLevel c ol ae h ∨ out = compressHandlerBrotliLevel c bl ol ae h → out.ce ≠ h.ce →
      ∃ k : Kind, out.ce = k.name ∧ hasAcceptEncoding ae k.name = true ∧
        ∃ e w, IsElement e ae ∧ e = w ++ k.name ∧ (w = [] ∨ w.getLast? = some 32)) := by
  intro out hout hne
  obtain ⟨k, hacc, hk, _⟩ := handler_changed c bl ol ae h out hout hne
  exact ⟨k, hk, hacc, hasAcceptEncoding_meaning ae k.name (by cases k <;> decide) hacc⟩

/-- C22: a response the handler already encoded (non-empty Content-Encoding) is passed through untouched -/
theorem never_compressed_twice (c : Codecs) (bl ol : Int) (ae : Bytes) (h : Resp) (hce : h.ce ≠ []) :
    compressHandlerLevel c ol ae h = h ∧ compressHandlerBrotliLevel c bl ol ae h = h :=
  ⟨handler_of_ce_ne c bl ol ae h _ (Or.inl rfl) hce, handler_of_ce_ne c bl ol ae h _ (Or.inr rfl) hce⟩

/-- … and stacked handler wrappers compress once -/
theorem compress_idempotent (c : Codecs) (ol : Int) (ae : Bytes) (h : Resp) :
    compressHandlerLevel c ol ae (compressHandlerLevel c ol ae h) = compressHandlerLevel c ol ae h := by
  -- a compressor that did something left a Content-Encoding behind, which stops the next one
  have hb (k) : compressBody c k ol (compressBody c k ol h) = compressBody c k ol h := by
    rcases compressBody_cases c k ol h with he | ⟨_, hk, _⟩
    · rw [he, he]
    · exact compressBody_of_ce_ne c k ol _ (hk ▸ by cases k <;> decide)
  unfold compressHandlerLevel
  split
  · exact hb _
  · rfl

/-- C22: a response whose Content-Encoding a wrapper set carries `Vary` with `Accept-Encoding` as a list member -/
theorem vary_when_compressed (c : Codecs) (bl ol : Int) (ae : Bytes) (h : Resp) :
    ∀ out, out = compressHandlerLevel c ol ae h ∨ out = compressHandlerBrotliLevel c bl ol ae h → out.ce ≠ h.ce →
      listHasMember out.vary Gen.strAcceptEncoding = true := by
  intro out hout hne
  obtain ⟨_, _, _, hv⟩ := handler_changed c bl ol ae h out hout hne
  rw [hv]; exact addVary_has_member h.vary

/-- regenerated: each of gzipBody/deflateBody/brotliBody/zstdBody clears resp.bodyRaw (itself or in a Response
    method it calls) when it swaps in the compressed buffer — bodyBytes() prefers bodyRaw -/
theorem compress_clears_body_raw :
    Gen.compressBodyClearsRaw.length = 4 ∧ Gen.compressBodyClearsRaw.all (·.2) = true := by decide +kernel

/-- a body compressor that sets the Content-Encoding of a non-stream response leaves no raw body: the body is the
    buffer holding `enc` of the former `bodyBytes()`, so every accessor yields the compressed bytes (SetBodyRaw included) -/
theorem compressed_body_replaces_raw (c : Codecs) (k : Kind) (level : Int) (h : Resp)
    (hchg : (compressBody c k level h).ce ≠ h.ce) (hns : ∀ reads, h.body ≠ .stream reads) :
    (compressBody c k level h).body = .buf (c.enc k level h.body.bytes) ∧
    ∀ b, (compressBody c k level h).body ≠ .raw b := by
  have key : (compressBody c k level h).body = .buf (c.enc k level h.body.bytes) := by
    rcases compressBody_cases c k level h with he | ⟨_, _, _, hb⟩
    · exact absurd (congrArg Resp.ce he) hchg
    · rw [hb]
      cases hh : h.body with
      | stream reads => exact absurd hh (hns reads)
      | _ => rfl
  exact ⟨key, fun b hb => nomatch key.symm.trans hb⟩

/-- regenerated: each of the four streamed compressors copies through `copyBodyStream` and has no Read loop of its own;
    `copyBodyStream` reads only through `copyBuffer` (directly or via `copyZeroAlloc`); `copyBuffer` handles the
    `nr > 0` bytes of a Read before its error -/
theorem stream_copy_respects_reader_contract :
    Gen.compressStreamCopies.length = 4 ∧
    Gen.compressStreamCopies.all (fun f => f.2.1 && !f.2.2.2 &&
      f.2.2.1.all (fun g => decide (g ∈ ["copyBodyStream",
        "acquireStacklessGzipWriter", "releaseStacklessGzipWriter", "acquireStacklessDeflateWriter", "releaseStacklessDeflateWriter",
        "acquireStacklessBrotliWriter", "releaseStacklessBrotliWriter", "acquireStacklessZstdWriter", "releaseStacklessZstdWriter"]))) = true ∧
    Gen.calls_copyBodyStream = ["copyBuffer", "copyZeroAlloc"] ∧ Gen.calls_copyZeroAlloc = ["copyBuffer"] ∧
    Gen.copyBufferReadBeforeErr = true := by decide +kernel

/-- the copy loop delivers every byte of a stream that ends with io.EOF — with the final bytes (`last ≠ []`) or alone
    (`last = []`), whatever the sizes of the Reads — and reports no error; these are the `reads` handed to `encStream` -/
theorem copy_delivers_all_bytes (pre : List Bytes) (last : Bytes) :
    copyBuffer (pre.map (fun d => (d, RdErr.none)) ++ [(last, RdErr.eof)]) = (pre.flatten ++ last, false) := by
  rw [copyBuffer_none_append]; rfl

/-- a Read error other than io.EOF ends the copy after the bytes that came with it, and is reported -/
theorem copy_reports_read_error (pre : List Bytes) (last : Bytes) (rest : List (Bytes × RdErr)) :
    copyBuffer (pre.map (fun d => (d, RdErr.none)) ++ (last, RdErr.fail) :: rest) = (pre.flatten ++ last, true) := by
  rw [copyBuffer_none_append]; rfl

/-- regenerated: `(*writer).do` reaches `w.xw.Reset()` after the destination write on every path, and
    `(*writer).Reset` empties the staging buffer too -/
theorem staging_buffer_is_always_cleared :
    Gen.stacklessDoAlwaysClearsStaging = true ∧ Gen.stacklessResetClearsStaging = true := by decide +kernel

/-- after any history of a pooled stackless writer — destination writes that succeeded or failed, re-acquisitions — the
    staging buffer is empty: the next operation hands the destination what the compressor produced for that operation,
    nothing of an earlier (failed) response -/
theorem failed_write_leaves_nothing_behind (history : List SWOp) (produced : Bytes) :
    (swRun history).staging = [] ∧
    (swStep (swStep (swRun history) .reset) (.run produced true)).dst = produced :=
  ⟨foldl_inv (f := swStep) (P := fun s => s.staging = []) (fun _ o _ => by cases o <;> rfl) history rfl, rfl⟩

/-- as long as the call sites run the job inline on a full queue, or no call met a full queue, the job of every
    returned call ran exactly once -/
theorem returned_call_ran_once {inl : Bool} {cap workers : Nat} {evs : List QEv} {s : QSt}
    (hg : inl = true ∨ hasFull evs = false) (hrun : qrun inl cap workers {} evs = some s)
    {id : Nat} (hret : id ∈ s.returned) : s.executed.count id = 1 :=
  (qrun_inv hg qinv_init hrun).ran_once hret

theorem output_of_ran_once (enc : Bytes → Bytes) (p : Bytes) {s : QSt} {id : Nat} (h : s.executed.count id = 1) :
    output enc p s id = enc p := by
  rw [output, h]; exact List.append_nil _

/-- C22: for every schedule — any interleaving of submissions, full-queue rejections, worker pick-ups and completions,
    any queue capacity and number of workers — every Append*/Write* call that has returned wrote `enc p` exactly once,
    so its output decodes to `p`; rests on the regenerated fact that /repo's call sites run the job inline -/
theorem append_roundtrip_any_schedule (c : Codecs) (k : Kind) (lvl : Int) (payload : Nat → Bytes)
    (cap workers : Nat) (evs : List QEv) (s : QSt)
    (hrun : qrun Gen.stacklessInlineOnFull cap workers {} evs = some s) (id : Nat) (hret : id ∈ s.returned) :
    output (c.enc k lvl) (payload id) s id = c.enc k lvl (payload id) ∧
    c.dec k (output (c.enc k lvl) (payload id) s id) = some (payload id) := by
  have ho := output_of_ran_once (c.enc k lvl) (payload id)
    (returned_call_ran_once (Or.inl call_sites_run_inline_when_full.1) hrun hret)
  exact ⟨ho, ho ▸ c.roundtrip k lvl _⟩

/-- the repaired defect (call sites dropping the `false` of a full queue): a call returns although its job never ran.
    The schedule is the replay of the finding: one worker busy, queue of capacity 1 full, third call rejected -/
theorem queue_full_counterexample :
    ¬ (∀ (cap workers : Nat) (evs : List QEv) (s : QSt) (id : Nat),
        qrun false cap workers {} evs = some s → id ∈ s.returned → s.executed.count id = 1) :=
  fun h => absurd (h 1 1 [.submit 0, .take 0, .submit 1, .full 2] _ 2 rfl (by decide)) (by decide)

/-- what held of the unrepaired call sites: round trip as long as no call met a full queue -/
theorem append_roundtrip_partial (c : Codecs) (k : Kind) (lvl : Int) (payload : Nat → Bytes)
    (cap workers : Nat) (evs : List QEv) (s : QSt) (hnofull : hasFull evs = false)
    (hrun : qrun false cap workers {} evs = some s) (id : Nat) (hret : id ∈ s.returned) :
    c.dec k (output (c.enc k lvl) (payload id) s id) = some (payload id) := by
  rw [output_of_ran_once _ _ (returned_call_ran_once (Or.inr hnofull) hrun hret)]
  exact c.roundtrip k lvl _

/-- `Codecs` is inhabited, so the theorems above are not vacuous -/
def toyCodecs : Codecs where
  enc := fun _ _ x => 1 :: x
  encStream := fun _ _ xs => 1 :: xs.flatten
  dec := fun _ y => match y with | 1 :: x => some x | _ => none
  roundtrip := by intros; rfl
  roundtripStream := by intros; rfl

def big : Bytes := List.replicate 200 97
def htmlResp (b : Body) : Resp := ⟨[], ofString "text/html", [], 0, b⟩

example : (compressHandlerLevel toyCodecs 6 (ofString "gzip") (htmlResp (.raw big))).body = .buf (1 :: big) := by
  simp only [ofString_eq]
  decide +kernel
example : (swRun [.run [1, 2] false, .reset, .run [3] true]).dst = [3] := by decide +kernel
example : copyBuffer [([1], .none), ([], .none), ([2, 3], .eof)] = ([1, 2, 3], false) := by decide +kernel
example : hasAcceptEncoding (ofString "deflate, gzip") Gen.strGzip = true := by
  simp only [ofString_eq]
  decide +kernel
example : hasAcceptEncoding (ofString "gzip;q=0") Gen.strGzip = false := by
  simp only [ofString_eq]
  decide +kernel
example : hasAcceptEncoding (ofString "xgzip") Gen.strGzip = false := by
  simp only [ofString_eq]
  decide +kernel
example : hasAcceptEncoding (ofString "identity,gzip") Gen.strGzip = false := by
  simp only [ofString_eq]
  decide +kernel
example : (compressHandlerLevel toyCodecs 6 (ofString "gzip, br") (htmlResp (.buf big))).ce = Gen.strGzip := by
  simp only [ofString_eq]
  decide +kernel
example : (compressHandlerBrotliLevel toyCodecs 4 6 (ofString "gzip, br") (htmlResp (.buf big))).ce = Gen.strBr := by
  simp only [ofString_eq]
  decide +kernel
example : (compressHandlerLevel toyCodecs 6 (ofString "gzip") (htmlResp (.buf (big.take 199)))).ce = [] := by
  simp only [ofString_eq]
  decide +kernel
example : (compressHandlerLevel toyCodecs 6 (ofString "gzip") (htmlResp (.stream [[1], [2]]))).body = .stream [[1, 1, 2]] := by
  simp only [ofString_eq]
  decide +kernel
example : (compressHandlerLevel toyCodecs 6 (ofString "gzip") { htmlResp (.buf big) with vary := ofString "Origin" }).vary
    = ofString "Origin,Accept-Encoding" := by
  simp only [ofString_eq]
  decide +kernel
example : addVary (ofString "X-Accept-Encoding-Like") = ofString "X-Accept-Encoding-Like,Accept-Encoding" := by
  simp only [ofString_eq]
  decide +kernel
example : addVary (ofString "Origin, accept-encoding") = ofString "Origin, accept-encoding" := by
  simp only [ofString_eq]
  decide +kernel
-- a schedule in which a call meets a full queue and still returns with its job done (inline)
example : (qrun true 1 1 {} [.submit 0, .take 0, .submit 1, .full 2, .done 0, .ret 0]).map
    (fun s => (s.returned, s.executed)) = some ([0, 2], [0, 2]) := by decide +kernel

end Fh.Props.C22

/-! ### what the theorems of this file rest on -/
#print axioms Fh.Props.C22.call_sites_run_inline_when_full
#print axioms Fh.Props.C22.writer_fallback_is_op_independent
#print axioms Fh.Props.C22.response_decodes_to_handler_body
#print axioms Fh.Props.C22.response_decodes_to_handler_body_brotli
#print axioms Fh.Props.C22.response_decodes_to_plain_handler_body
#print axioms Fh.Props.C22.hasAcceptEncoding_meaning
#print axioms Fh.Props.C22.encoding_is_accepted
#print axioms Fh.Props.C22.never_compressed_twice
#print axioms Fh.Props.C22.compress_idempotent
#print axioms Fh.Props.C22.vary_when_compressed
#print axioms Fh.Props.C22.compress_clears_body_raw
#print axioms Fh.Props.C22.compressed_body_replaces_raw
#print axioms Fh.Props.C22.stream_copy_respects_reader_contract
#print axioms Fh.Props.C22.copy_delivers_all_bytes
#print axioms Fh.Props.C22.copy_reports_read_error
#print axioms Fh.Props.C22.staging_buffer_is_always_cleared
#print axioms Fh.Props.C22.failed_write_leaves_nothing_behind
#print axioms Fh.Props.C22.returned_call_ran_once
#print axioms Fh.Props.C22.output_of_ran_once
#print axioms Fh.Props.C22.append_roundtrip_any_schedule
#print axioms Fh.Props.C22.queue_full_counterexample
#print axioms Fh.Props.C22.append_roundtrip_partial
