/-
C18 — HostClient connection pool respects MaxConns and keeps exact accounting.

All theorems quantify over ARBITRARY event lists `evs` from the initial pool: any interleaving of the critical
sections of AcquireConn / queueForIdle / dialConnFor / ReleaseConn / CloseConn(decConnsCount) / wantConn.cancel /
connsCleaner / CloseIdleConnections with dial results and timer expiries, for any MaxConns, with and without
MaxConnWaitTimeout, LIFO and FIFO.
Residue: the Go code executes these regions atomically; a goroutine with an enabled step is eventually scheduled;
the instant between decConnsCount and cc.c.Close() in CloseConn; SetMaxConns at run time.
-/
import FhVerif.Proofs.HostPool
import FhVerif.Gen.PoolShape

namespace Fh.Props.C18
open Fh.Model.HP Fh.Proofs.HostPool

/-! ### no event changes `maxConns`, so `Inv.hMax` can be read at the configured bound `m` -/

theorem setSt_maxConns (t : State) (w : Nat) (st : WSt) : (setSt t w st).maxConns = t.maxConns := by
  unfold setSt; split <;> rfl

theorem decConns_maxConns (t : State) : (decConns t).maxConns = t.maxConns := by
  unfold decConns; split
  · split <;> rfl
  · rfl

theorem releaseTo_maxConns (t : State) (c : Nat) : (releaseTo t c).maxConns = t.maxConns := by
  unfold releaseTo; split
  · split
    · exact setSt_maxConns _ _ _
    · rfl
  · rfl

theorem stepAcquire_maxConns (t : State) : (stepAcquire t).maxConns = t.maxConns := by
  unfold stepAcquire; split
  · split
    · rfl
    · split <;> rfl
  · split <;> rfl

theorem step_cfg (s s' : State) (e : Event) (hs : step s e = some s') : s'.maxConns = s.maxConns := by
  cases e <;> simp only [step, stepEnqueue, stepDialOkFor, stepDialFailFor, stepWaiterReturn, stepWaiterTimeout,
    stepCancel, stepCleaner] at hs
  case acquire => cases hs; exact stepAcquire_maxConns s
  case dialOkFor | dialFailFor =>
    split at hs
    · split at hs <;> cases hs <;> simp only [setSt_maxConns]
    · cases hs
  all_goals split at hs <;> cases hs <;> simp only [decConns_maxConns, releaseTo_maxConns, setW]

theorem run_cfg (evs : List Event) (s s' : State) (hr : run s evs = some s') : s'.maxConns = s.maxConns :=
  Iter.inv (P := fun t => t.maxConns = s.maxConns) (fun a e b h hs => (step_cfg a b e hs).trans h) rfl
    (run_eq_iter s evs ▸ hr)

theorem reach_inv {m : Nat} {w f : Bool} {evs : List Event} {s : State} (h : run (init m w f) evs = some s) : Inv s :=
  run_inv evs _ s (inv_init m w f) h

/-- Exact accounting: in every reachable state `connsCount` is the number of idle connections, connections held by
    goroutines, slots held by dial goroutines and connections delivered to a wantConn but not yet claimed. -/
theorem count_exact (m : Nat) (w f : Bool) (evs : List Event) (s : State) (h : run (init m w f) evs = some s) :
    s.connsCount = ((s.idle.length + s.inUse.length + dialing s + deliveredN s : Nat) : Int) :=
  (reach_inv h).hCount.trans (Int.add_zero _)

/-- MaxConns is respected by the counter, and with it by the number of connections open or being dialled. -/
theorem count_le_max (m : Nat) (w f : Bool) (evs : List Event) (s : State) (h : run (init m w f) evs = some s) :
    s.connsCount ≤ m ∧ s.idle.length + s.inUse.length + dialing s + deliveredN s ≤ m := by
  have h1 := (reach_inv h).hMax
  rw [show s.maxConns = m from run_cfg evs _ s h] at h1
  have h2 := count_exact m w f evs s h
  exact ⟨h1, by omega⟩

/-- No connection is lent twice: an id occurs at most once among the idle list, the connections held by goroutines
    and those parked in wantConn records; ids not yet produced by a dial occur nowhere. -/
theorem no_double_lend (m : Nat) (w f : Bool) (evs : List Event) (s : State) (h : run (init m w f) evs = some s) (c : Nat) :
    s.idle.count c + s.inUse.count c + deliveredCnt s c ≤ 1 ∧
    (c ∈ s.inUse → c ∉ s.idle ∧ deliveredCnt s c = 0 ∧ s.inUse.count c = 1 ∧ c < s.nextConn) := by
  have hi := reach_inv h
  have h1 : s.idle.count c + s.inUse.count c + deliveredCnt s c ≤ 1 := hi.hUniq c
  refine ⟨h1, fun hm => ?_⟩
  have h2 : 0 < s.inUse.count c := List.count_pos_iff.mpr hm
  refine ⟨fun hidle => ?_, by omega, by omega, mem_lt_next s hi c hm⟩
  have : 0 < s.idle.count c := List.count_pos_iff.mpr hidle
  omega

/-- Every waiter ends with a connection or with an error, never both: a caller that returned with `c` left a record
    nobody else can take `c` from (`taken`), one that returned an error left no connection in its record (`cancel`
    took back a delivery that raced in), and a record that still holds a connection belongs to a caller not yet back. -/
theorem waiter_outcome (m : Nat) (w f : Bool) (evs : List Event) (s : State) (h : run (init m w f) evs = some s)
    (wt : Waiter) (hw : wt ∈ s.waiters) :
    (∀ c, wt.pc = .done (.conn c) → wt.st = .taken) ∧
    (wt.pc = .done .noFree → wt.st = .cancelled ∨ wt.st = .failed) ∧
    (wt.pc = .done .dialErr → wt.st = .failed) ∧
    (wt.st.isDelivered = true → ∀ o, wt.pc ≠ .done o) ∧
    (wt.st = .taken → ∃ c, wt.pc = .done (.conn c)) := by
  have hok := (reach_inv h).hW wt hw
  rcases wt with ⟨st, pc⟩
  -- all combinations of record and caller: excluded by `WOk`, or the five claims compute
  cases pc with
  | done o => cases o <;> cases st <;> first | exact Bool.noConfusion hok | simp [WSt.isDelivered]
  | _ => cases st <;> first | exact Bool.noConfusion hok | simp [WSt.isDelivered]

/-- … and never neither once its timer fired: a parked caller can always take the timer branch, and then its `cancel`
    needs no event of any other actor. -/
theorem waiter_outcome_enabled (m : Nat) (w f : Bool) (evs : List Event) (s : State) (h : run (init m w f) evs = some s)
    (i : Nat) (wt : Waiter) (hget : s.waiters[i]? = some wt) :
    (wt.pc = .parked → (step s (.waiterTimeout i)).isSome) ∧ (wt.pc = .timedOut → (step s (.cancel i)).isSome) := by
  have hok := (reach_inv h).hW wt (List.mem_of_getElem? hget)
  rcases wt with ⟨st, pc⟩
  constructor
  · intro hp; simp only at hp; subst hp
    simp [step, stepWaiterTimeout, hget]
  · intro hp; simp only at hp; subst hp
    cases st <;> simp_all [step, stepCancel, WOk]

/-- ConnsCount returns to zero once all connections are closed and no request is pending. -/
theorem zero_at_quiescence (m : Nat) (w f : Bool) (evs : List Event) (s : State) (h : run (init m w f) evs = some s)
    (hq : quiescent s) : s.connsCount = 0 := by
  have hc := count_exact m w f evs s h
  obtain ⟨h1, h2, h3, h4⟩ := hq
  have hd : deliveredN s = 0 := by
    refine List.countP_eq_zero.mpr fun wt hwt hdel => ?_
    obtain ⟨o, ho⟩ := h4 wt hwt
    exact (waiter_outcome m w f evs s h wt hwt).2.2.2.1 hdel o ho
  rw [h1, h2, h3, hd] at hc
  exact hc

/-- MaxConns = 1 with MaxConnWaitTimeout: a second request waits, gets the released connection, returns with it -/
example : (run (init 1 true false) [.acquire, .dialOkOwn, .acquire, .enqueue 0, .release 0, .waiterReturn 0]).map
    (fun s => (s.connsCount, s.idle, s.inUse, s.waiters)) = some (1, [], [0], [⟨.taken, .done (.conn 0)⟩]) := by decide

/-- the delivery-vs-timeout race: the timer branch wins although a connection was delivered; `cancel` takes it back
    and releases it, nothing is lost (count 1 = one idle connection) -/
example : (run (init 1 true false) [.acquire, .dialOkOwn, .acquire, .enqueue 0, .release 0, .waiterTimeout 0, .cancel 0,
    .release 0]).map (fun s => (s.connsCount, s.idle, s.inUse, deliveredN s)) = some (1, [0], [], 0) := by decide

/-- a closed connection hands its slot to a waiter (dialConnFor), the dial fails, the slot is given back: quiescent, 0 -/
example : (run (init 1 true false) [.acquire, .dialOkOwn, .acquire, .enqueue 0, .close 0, .dialFailFor 0, .decAfterFail,
    .waiterReturn 0]).map (fun s => (s.connsCount, dialing s, s.waiters)) = some (0, 0, [⟨.failed, .done .dialErr⟩]) := by decide

/-- without MaxConnWaitTimeout the third request is refused at MaxConns = 2 -/
example : (run (init 2 false true) [.acquire, .acquire, .acquire]).map (fun s => (s.connsCount, s.ownDials, s.rejected)) =
    some (2, 2, 1) := by decide

inductive QOp
  | push (w : Nat)
  | pop
  | clear (waiting : Nat → Bool)
  | popWaiting (waiting : Nat → Bool)

def stepImpl (q : WQ) : QOp → WQ
  | .push w => q.pushBack w
  | .pop => q.popFront.2
  | .clear p => WQ.clearFront p q.len q
  | .popWaiting p => (WQ.popWaiting p q.len q).2

def stepSpec (l : List Nat) : QOp → List Nat
  | .push w => l ++ [w]
  | .pop => l.tail
  | .clear p => l.dropWhile (fun w => !p w)
  | .popWaiting p => (l.dropWhile (fun w => !p w)).tail

/-- After any sequence of pushBack / popFront / clearFront / pop-until-waiting operations the two-stage queue
    (`head[headPos:]`, `tail`) holds the elements of the FIFO list reached by the same operations, in the same order;
    `len`, `peekFront`, `popFront` and the pop-until-waiting loop return what the list says. -/
theorem wantConnQueue_refines_fifo (ops : List QOp) :
    let q := ops.foldl stepImpl WQ.empty
    let l := ops.foldl stepSpec []
    q.abs = l ∧ q.wf ∧ q.len = l.length ∧ q.peekFront = l.head? ∧ q.popFront.1 = l.head? ∧
    ∀ p, (WQ.popWaiting p q.len q).1 = l.find? p := by
  have hfuel : ∀ q : WQ, q.abs.length ≤ q.len := fun q => Nat.le_of_eq (len_refines q).symm
  suffices hgen : ∀ (q : WQ), q.wf → (ops.foldl stepImpl q).abs = ops.foldl stepSpec q.abs ∧ (ops.foldl stepImpl q).wf by
    intro q l
    obtain ⟨hq, hwf⟩ : q.abs = l ∧ q.wf := hgen WQ.empty wf_empty
    refine ⟨hq, hwf, by rw [len_refines, hq], by rw [peekFront_refines q hwf, hq],
      by rw [(popFront_refines q hwf).1, hq], fun p => ?_⟩
    rw [(popWaiting_refines p q.len q hwf (hfuel q)).1, hq]
  induction ops with
  | nil => intro q hq; exact ⟨rfl, hq⟩
  | cons op rest ih =>
    intro q hq
    have key : (stepImpl q op).abs = stepSpec q.abs op ∧ (stepImpl q op).wf := by
      cases op with
      | push w => exact ⟨abs_pushBack q w, wf_pushBack q w hq⟩
      | pop => exact (popFront_refines q hq).2
      | clear p => exact clearFront_refines p q.len q hq (hfuel q)
      | popWaiting p => exact (popWaiting_refines p q.len q hq (hfuel q)).2
    have := ih (stepImpl q op) key.2
    rwa [key.1] at this

/-- the queue really swaps stages (at the first and at the last pop) -/
example : ([QOp.push 1, .push 2, .pop, .push 3, .pop, .pop, .push 4].foldl stepImpl WQ.empty) = ⟨[3], 1, [4]⟩ := by decide

/-! ### the hand-off loops of client.go have the shape the atomic events assume

`release c` and the decConnsCount part of `close c` are single events of the model although `w.waiting()` and
`w.tryDeliver` are two steps of the Go loop between which the waiter's `cancel` can run.  That is sound for exactly one
loop shape (`release_loop_linearises`), and no run reliably hits so narrow a window.  So `fhextract` recomputes the
control skeletons of the hand-off functions (Gen/PoolShape.lean) and these theorems pin them. -/

/-- A cancel that slips in between `w.waiting()` and `w.tryDeliver` might as well have happened before the release:
    the loop as written (check, deliver, go on after a failed delivery) returns what the atomic pop-until-waiting
    loop returns on the waiters that still wait at delivery time. -/
theorem release_loop_linearises (check deliver : Nat → Bool) (h : ∀ w, deliver w = true → check w = true)
    (q : WQ) : popDeliver check deliver q.len q = WQ.popWaiting deliver q.len q :=
  popDeliver_eq_popWaiting check deliver h q.len q

/-- …whereas the loop that returns after a failed delivery leaves the connection nowhere (not delivered, not idle,
    still counted) although waiter 1 waits: waiter 0 is cancelled in the window. -/
theorem release_without_retry_counterexample :
    popDeliverNoRetry (fun _ => true) (fun w => w == 1) 2 ((WQ.empty.pushBack 0).pushBack 1) = (none, ⟨[0, 1], 1, []⟩, true) ∧
    popDeliver (fun _ => true) (fun w => w == 1) 2 ((WQ.empty.pushBack 0).pushBack 1) = (some 1, ⟨[0, 1], 2, []⟩) := by decide

/-- ReleaseConn: the result of tryDeliver decides `break`, and the connection goes to the idle list iff nobody took it -/
theorem releaseConn_shape : Gen.poolShape_ReleaseConn =
    ["if c.MaxConnWaitTimeout <= 0 => append c.conns", "if c.MaxConnWaitTimeout <= 0 => return",
     "if q := c.connsWait; q != nil | for q.len() > 0 | if w.waiting() => tryDeliver:result-used",
     "if q := c.connsWait; q != nil | for q.len() > 0 | if w.waiting() | if delivered => break",
     "if !delivered => append c.conns"] := rfl

/-- decConnsCount: the slot goes to the first waiter that still waits (dialConnFor), else the counter is decremented -/
theorem decConnsCount_shape : Gen.poolShape_decConnsCount =
    ["if c.MaxConnWaitTimeout <= 0 => connsCount--", "if c.MaxConnWaitTimeout <= 0 => return",
     "if q := c.connsWait; q != nil | for q.len() > 0 | if w.waiting() => go dialConnFor",
     "if q := c.connsWait; q != nil | for q.len() > 0 | if w.waiting() => break",
     "if !dialed => connsCount--"] := rfl

/-- dialConnFor: a failed dial always gives the slot back; a connection nobody takes is released -/
theorem dialConnFor_shape : Gen.poolShape_dialConnFor =
    ["if err != nil => tryDeliver:result-dropped", "if err != nil => decConnsCount", "if err != nil => return",
     "tryDeliver:result-used", "if !w.tryDeliver(cc, nil) => ReleaseConn"] := rfl

/-- cancel returns a delivery that raced in; tryDeliver delivers at most once -/
theorem cancel_shape : Gen.poolShape_cancel =
    ["if w.conn == nil && w.err == nil => close", "if conn != nil => ReleaseConn"] ∧
    Gen.poolShape_tryDeliver = ["if w.conn != nil || w.err != nil => return", "close"] := ⟨rfl, rfl⟩

/-- CloseIdleConnections is the model's `closeIdle` followed by `close` events: under the lock it takes a COPY of the
    idle list and empties `c.conns`; the CloseConn calls run outside the lock on the copy.  (Over the list's own backing
    array a ReleaseConn landing in between could overwrite an entry not yet visited, which would then be closed while
    pooled.) -/
theorem closeIdleConnections_shape : Gen.poolShape_CloseIdleConnections =
    ["lock", "scratch = copy of c.conns", "c.conns = c.conns[:0]", "unlock", "range scratch => CloseConn"] := rfl

/-- transport.RoundTrip: after AcquireConn every way out passes through exactly one of CloseConn / ReleaseConn, or
    hands the connection to the close callback of the streamed body: no exit leaks the slot, and every error exit
    (deadlines, write / flush / read errors incl. ErrBodyTooLarge) CLOSES the connection: one on which a request or a
    response was cut short is never pooled. -/
theorem roundTrip_exits_close_or_release : Gen.rtShape_RoundTrip =
    ["AcquireConn", "if err != nil | return",
     "if err != nil | CloseConn", "if err != nil | return",
     "if err != nil | CloseConn", "if err != nil | return",
     "if err != nil | CloseConn", "if err != nil | return",
     "if err != nil | CloseConn", "if err != nil | return",
     "if customStreamBody && resp.bodyStream != nil | stream close callback installed",
     "if customStreamBody && resp.bodyStream != nil | return",
     "if closeConn | CloseConn", "else of closeConn | ReleaseConn", "return"] := rfl

end Fh.Props.C18

/-! ### what the theorems of this file rest on -/
#print axioms Fh.Props.C18.setSt_maxConns
#print axioms Fh.Props.C18.decConns_maxConns
#print axioms Fh.Props.C18.releaseTo_maxConns
#print axioms Fh.Props.C18.stepAcquire_maxConns
#print axioms Fh.Props.C18.step_cfg
#print axioms Fh.Props.C18.run_cfg
#print axioms Fh.Props.C18.reach_inv
#print axioms Fh.Props.C18.count_exact
#print axioms Fh.Props.C18.count_le_max
#print axioms Fh.Props.C18.no_double_lend
#print axioms Fh.Props.C18.waiter_outcome
#print axioms Fh.Props.C18.waiter_outcome_enabled
#print axioms Fh.Props.C18.zero_at_quiescence
#print axioms Fh.Props.C18.wantConnQueue_refines_fifo
#print axioms Fh.Props.C18.release_loop_linearises
#print axioms Fh.Props.C18.release_without_retry_counterexample
#print axioms Fh.Props.C18.releaseConn_shape
#print axioms Fh.Props.C18.decConnsCount_shape
#print axioms Fh.Props.C18.dialConnFor_shape
#print axioms Fh.Props.C18.cancel_shape
#print axioms Fh.Props.C18.closeIdleConnections_shape
#print axioms Fh.Props.C18.roundTrip_exits_close_or_release
