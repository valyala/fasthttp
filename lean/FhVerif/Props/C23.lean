/-
C23 — FS never serves a file outside its root.

For every request path and host, every configuration (osFS with a non-empty root, or an fs.FS with any root;
no rewriter or one of the three built-in rewriters with any strip count; compression on or off), every name the
handler hands to Open / Stat / Remove / MkdirAll / CreateTemp / ReadDir (Model.fsNames — a superset over all
file-system states) is  root ⊕ p  (or compressRoot ⊕ p)  where p is a '/'-separated list of segments none of
which is ".." and which contains no NUL byte.  Paths with a NUL byte are rejected, and so are paths with a
".." segment after rewriting; without a rewriter the absence of ".." is DERIVED from C26
(`hasDotDot_normalizePath`, via `Props.C26.normalize_eq_rfc` / `rds_no_dot`), not tested by the code.

Model = fs.go after the commit "fix: FS does not probe <root><compressed suffix> …" (before it, a request for "/"
with compression opened, served and removed the sibling  <root>.fasthttp.gz  — outside the root).
Configuration hypotheses (not request input): compressed suffix is slash- and NUL-free and ≥ 3 bytes,
index names contain no ".." segment and no NUL.  Residue: symlinks, Windows branches, filepath.Clean inside
filepath.Dir (lexical: it cannot climb without a ".." segment).
-/
import FhVerif.Proofs.FsPath
import FhVerif.Gen.Facts
import FhVerif.Base.OfString

namespace Fh.Props.C23
open Fh Fh.Model Fh.Proofs.FsPath

theorem rewrite_ok (rw : Rewriter) (host orig : Bytes) : ∃ p, rewritePath rw host orig = some p := by
  have hs := fun n => strip_ok n (normalizePath orig) (Or.inr (Fh.Props.C26.starts_with_slash orig))
  unfold rewritePath
  cases rw with
  | none => exact ⟨_, rfl⟩
  | pfx n => exact ⟨_, rfl⟩
  | slashes n =>
    obtain ⟨q, _, h, _⟩ := hs n
    exact ⟨q, h⟩
  | vhost n =>
    obtain ⟨q, _, h, _⟩ := hs n
    simp only [h]
    exact ⟨_, rfl⟩

/-- stripLeadingSlashes' "BUG: path must start with slash" panic is unreachable from a request -/
theorem strip_no_panic (cfg : FsCfg) (host orig : Bytes) : handlePath cfg host orig ≠ .panic := by
  obtain ⟨p, hp⟩ := rewrite_ok cfg.rw host orig
  unfold handlePath
  rw [hp]
  simp only
  split
  · simp
  · split <;> simp

/-- without a rewriter the served path is ctx.Path(), which has no ".." segment by C26 -/
theorem no_rewriter_never_dotdot (host orig p : Bytes) (h : rewritePath .none host orig = some p) :
    hasDotDot p = false := by
  simp only [rewritePath] at h
  injection h with h
  rw [← h]
  exact hasDotDot_normalizePath orig

theorem served_path_clean (cfg : FsCfg) (host orig path fp : Bytes)
    (h : handlePath cfg host orig = .serve path fp) :
    hasDotDot path = false ∧ 0 ∉ path ∧ fp = pathToFilePath cfg.osfs cfg.root path := by
  unfold handlePath at h
  cases hr : rewritePath cfg.rw host orig with
  | none => simp [hr] at h
  | some p =>
    simp only [hr] at h
    split at h
    · cases h
    · rename_i hn
      split at h
      · cases h
      · rename_i hd
        injection h with h1 h2
        subst h1
        refine ⟨?_, by simpa using hn, h2.symm⟩
        by_cases hrw : cfg.rw = .none
        · rw [hrw] at hr
          exact no_rewriter_never_dotdot host orig p hr
        · have : (cfg.rw != .none) = true := by simpa using hrw
          simpa [this] using hd

/-- C23: a rewritten path with a NUL byte is rejected (400) and nothing is opened -/
theorem nul_rejected (cfg : FsCfg) (mc : Bool) (host orig path : Bytes)
    (h : rewritePath cfg.rw host orig = some path) (hn : 0 ∈ path) :
    handlePath cfg host orig = .badRequest ∧ fsNames cfg mc host orig = [] := by
  have h1 : handlePath cfg host orig = .badRequest := by simp [handlePath, h, hn]
  exact ⟨h1, by simp [fsNames, h1]⟩

/-- C23: with a rewriter, a rewritten path with a ".." segment is rejected (500) and nothing is opened -/
theorem dotdot_after_rewrite_rejected (cfg : FsCfg) (mc : Bool) (host orig path : Bytes)
    (hrw : cfg.rw ≠ .none) (h : rewritePath cfg.rw host orig = some path) (hn : 0 ∉ path)
    (hd : hasDotDot path = true) :
    handlePath cfg host orig = .dotdot ∧ fsNames cfg mc host orig = [] := by
  have h1 : handlePath cfg host orig = .dotdot := by simp [handlePath, h, hn, hrw, hd]
  exact ⟨h1, by simp [fsNames, h1]⟩

/-- well-formed configuration (set by the programmer, not by the request) -/
structure GoodCfg (cfg : FsCfg) : Prop where
  root : cfg.osfs = true → cfg.root ≠ []
  suffix : GoodSuffix cfg.suffix
  index : ∀ ix ∈ cfg.indexNames, GoodName ix

/-- osFS: the name is root or compressRoot followed by a clean relative part ("" or "/seg/seg…") -/
def ConfinedOS (cfg : FsCfg) (name : Bytes) : Prop :=
  ∃ rel, RelOK rel ∧ (name = cfg.root ++ rel ∨ name = cfg.croot ++ rel)

/-- fs.FS: the name is the root, or root/"p", or — for the roots "" and "." — p itself or "." -/
def ConfinedFS (root name : Bytes) : Prop :=
  ∃ rel, hasDotDot rel = false ∧ 0 ∉ rel ∧
    (name = root ∨ name = root ++ 47 :: rel ∨ ((root = [] ∨ root = dotRoot) ∧ (name = rel ∨ name = dotRoot)))

def Confined (cfg : FsCfg) (name : Bytes) : Prop :=
  if cfg.osfs then ConfinedOS cfg name else ConfinedFS cfg.root name

/-- `bare` of `Shape`: an fs.FS whose root is "" or "." -/
def Bare (cfg : FsCfg) : Prop := cfg.osfs = false ∧ (cfg.root = [] ∨ cfg.root = dotRoot)

/-- what every name turns out to be: of the shape below the root, or (osFS) below the compress root -/
def Named (cfg : FsCfg) (name : Bytes) : Prop :=
  Shape (Bare cfg) cfg.root name ∨ (cfg.osfs = true ∧ Shape (Bare cfg) cfg.croot name)

theorem confinedOS_of_shape {b : Prop} (base fp : Bytes) (hb : ¬b) (h : Shape b base fp) :
    ∃ rel, RelOK rel ∧ fp = base ++ rel := by
  cases h with
  | root => exact ⟨[], ⟨Or.inl rfl, rfl, List.not_mem_nil⟩, (List.append_nil _).symm⟩
  | bare _ hb' _ => exact absurd hb' hb
  | below q hq =>
    have := (goodName_join [] q).2 ⟨goodName_nil, hq⟩
    exact ⟨47 :: q, ⟨Or.inr ⟨q, rfl⟩, this.nodd, this.nonul⟩, rfl⟩

theorem confinedFS_of_shape {b : Prop} (root fp : Bytes) (hb : b → root = [] ∨ root = dotRoot)
    (h : Shape b root fp) : ConfinedFS root fp := by
  cases h with
  | root => exact ⟨[], rfl, List.not_mem_nil, Or.inl rfl⟩
  | bare _ hb' hq => exact ⟨fp, hq.nodd, hq.nonul, Or.inr (Or.inr ⟨hb hb', Or.inl rfl⟩)⟩
  | below q hq => exact ⟨q, hq.nodd, hq.nonul, Or.inr (Or.inl rfl)⟩

theorem confined_of_named (cfg : FsCfg) (name : Bytes) (h : Named cfg name) : Confined cfg name := by
  unfold Confined
  cases hos : cfg.osfs with
  | true =>
    have hb : ¬Bare cfg := fun hb => by rw [hb.1] at hos; cases hos
    rw [if_pos rfl]
    rcases h with h | ⟨_, h⟩
    · obtain ⟨rel, hrel, e⟩ := confinedOS_of_shape _ _ hb h
      exact ⟨rel, hrel, Or.inl e⟩
    · obtain ⟨rel, hrel, e⟩ := confinedOS_of_shape _ _ hb h
      exact ⟨rel, hrel, Or.inr e⟩
  | false =>
    rw [if_neg (by decide)]
    rcases h with h | ⟨h, _⟩
    · exact confinedFS_of_shape _ _ (fun hb => hb.2) h
    · rw [hos] at h; cases h

theorem toCompressed_eq (cfg : FsCfg) (rel : Bytes) :
    filePathToCompressed cfg (cfg.root ++ rel) = cfg.root ++ rel ∨
    filePathToCompressed cfg (cfg.root ++ rel) = cfg.croot ++ rel := by
  unfold filePathToCompressed
  split
  · exact Or.inl rfl
  · have : cfg.root.isPrefixOf (cfg.root ++ rel) = true := by
      rw [List.isPrefixOf_iff_prefix]; exact List.prefix_append _ _
    simp only [this, Bool.not_true, Bool.false_eq_true, if_false]
    right
    simp

theorem compressNames_named (cfg : FsCfg) (hg : GoodCfg cfg) (q : Bytes) (hq : GoodName q) :
    ∀ on ∈ compressNames cfg (cfg.root ++ 47 :: q), Named cfg on.2 := by
  intro on hon
  unfold compressNames at hon
  rcases List.mem_cons.1 hon with rfl | hon
  · exact Or.inl (.below q hq)
  · split at hon
    · rename_i hos
      -- the compressed copy lives at base "/" q, base = root or compressRoot
      obtain ⟨base, hbase, hc⟩ : ∃ base, (∀ n, Shape (Bare cfg) base n → Named cfg n) ∧
          filePathToCompressed cfg (cfg.root ++ 47 :: q) = base ++ 47 :: q := by
        rcases toCompressed_eq cfg (47 :: q) with h | h
        · exact ⟨_, fun n hn => Or.inl hn, h⟩
        · exact ⟨_, fun n hn => Or.inr ⟨hos, hn⟩, h⟩
      rw [hc] at hon
      have hsfx : ∀ x, GoodSuffix x → Named cfg (base ++ 47 :: q ++ x) := fun x hx => by
        rw [List.append_assoc, List.cons_append]
        exact hbase _ (.below _ (goodName_suffix q x hq hx))
      have htmp : Named cfg (base ++ 47 :: q ++ cfg.suffix ++ tmpMark) := by
        rw [List.append_assoc (base ++ 47 :: q)]
        exact hsfx _ (goodSuffix_tmp _ hg.suffix)
      rcases List.mem_append.1 hon with h | h
      · unfold mkdirNames at h
        split at h
        · rw [List.mem_singleton.1 h]
          exact hbase _ (shape_dirOf _ base q hq)
        · cases h
      · simp only [tmpNames, List.mem_cons, List.not_mem_nil, or_false] at h
        rcases h with rfl | rfl | rfl | rfl
        · exact hsfx _ hg.suffix
        · exact htmp
        · exact htmp
        · exact hsfx _ hg.suffix
    · cases hon

theorem openNames_named (cfg : FsCfg) (hg : GoodCfg cfg) (mc : Bool) (fp : Bytes)
    (h : Shape (Bare cfg) cfg.root fp) : ∀ on ∈ openNames cfg mc fp, Named cfg on.2 := by
  intro on hon
  unfold openNames at hon
  rcases List.mem_append.1 hon with hon | hon
  · split at hon
    · rename_i hcond
      -- the root itself is never probed, so the suffix lands inside a name below it
      have hne : fp ≠ cfg.root := fun he => by simp [he] at hcond
      have hs : Named cfg (fp ++ cfg.suffix) := Or.inl (shape_suffix _ h hne hg.suffix)
      simp only [probeNames, List.mem_cons] at hon
      rcases hon with rfl | rfl | rfl | hon
      · exact hs
      · exact Or.inl h
      · exact hs
      · cases h with
        | root => exact absurd rfl hne
        | bare _ hb _ =>
          simp only [compressNames, hb.1, Bool.false_eq_true, if_false, List.mem_singleton] at hon
          rw [hon]
          exact Or.inl (.bare _ hb ‹_›)
        | below q hq => exact compressNames_named cfg hg q hq on hon
    · cases hon
  · rw [List.mem_singleton.1 hon]
    exact Or.inl h

theorem fsNames_named (cfg : FsCfg) (hg : GoodCfg cfg) (mc : Bool) (host orig : Bytes) :
    ∀ on ∈ fsNames cfg mc host orig, Named cfg on.2 := by
  intro on hon
  unfold fsNames at hon
  split at hon
  · rename_i path fp hserve
    obtain ⟨hdd, hnul, rfl⟩ := served_path_clean cfg host orig path fp hserve
    have hshape : Shape (Bare cfg) cfg.root _ := p2f_shape cfg.osfs cfg.root path ⟨hdd, hnul⟩ hg.root
    have hb : cfg.root = [] → Bare cfg := fun hr => by
      cases hos : cfg.osfs with
      | true => exact absurd hr (hg.root hos)
      | false => exact ⟨hos, Or.inl hr⟩
    rcases List.mem_append.1 hon with h | h
    · exact openNames_named cfg hg mc _ hshape on h
    · unfold indexNamesOf at h
      rcases List.mem_append.1 h with h | h
      · obtain ⟨ix, hix, h⟩ := List.mem_flatMap.1 h
        exact openNames_named cfg hg mc _ (shape_index ix hshape hb (hg.index ix hix)) on h
      · unfold readDirNames at h
        split at h
        · rw [List.mem_singleton.1 h]
          exact Or.inl (shape_readDir hshape hb)
        · cases h
  · cases hon

/-- C23 as stated at the head of this file, for every request path, host, rewriter and strip count -/
theorem opened_path_confined (cfg : FsCfg) (hg : GoodCfg cfg) (mc : Bool) (host orig : Bytes) :
    ∀ on ∈ fsNames cfg mc host orig, Confined cfg on.2 :=
  fun on hon => confined_of_named cfg on.2 (fsNames_named cfg hg mc host orig on hon)

/-- regenerated from uri.go on every run: every assignment to `u.path` in URI.parse (no '?'/'#', query, fragment only),
    SetPathBytes and SetPath stores the result of normalizePath — so ctx.Path() = normalizePath(pathOriginal) whatever
    the request target looks like, which is what `handlePath` assumes. -/
theorem uri_parse_always_normalises :
    (∀ f ∈ Gen.assigns_URI_parse_path, f = "normalizePath") ∧ Gen.assigns_URI_parse_path ≠ [] ∧
    Gen.assigns_URI_SetPathBytes_path = ["normalizePath"] ∧ Gen.assigns_URI_SetPath_path = ["normalizePath"] := by
  decide

/-- confinement stated from the raw request target (query and fragment cut off as URI.parse does) -/
theorem opened_path_confined_target (cfg : FsCfg) (hg : GoodCfg cfg) (mc : Bool) (host target : Bytes) :
    ∀ on ∈ fsNames cfg mc host (requestPath target), Confined cfg on.2 :=
  opened_path_confined cfg hg mc host (requestPath target)

/-- `decide` on `o = .serve p f` goes through the derived `DecidableEq Outcome`, whose casts the kernel resolves by
    unifying the two unevaluated sides; comparing the fields as Booleans is plain evaluation -/
theorem serve_of_beq (o : Outcome) (p f : Bytes)
    (h : (match o with | .serve a b => a == p && b == f | _ => false) = true) : o = .serve p f := by
  cases o <;> simp_all

def gz : Bytes := ofString ".fasthttp.gz"
def cfgOS (rw : Rewriter) : FsCfg :=
  { osfs := true, root := ofString "/srv/www", croot := ofString "/srv/z", rw := rw, suffix := gz,
    indexNames := [ofString "index.html"], genIndex := true }
def cfgFS (root : String) (rw : Rewriter) : FsCfg :=
  { osfs := false, root := ofString root, croot := ofString root, rw := rw, suffix := gz,
    indexNames := [ofString "index.html"], genIndex := true }

-- encoded traversal is normalised away; the file path stays below the root
example : handlePath (cfgOS .none) (ofString "h") (ofString "/a/%2e%2e/%2E./..%2fb//c/") =
    .serve (ofString "/b/c/") (ofString "/srv/www/b/c") := serve_of_beq _ _ _ (by decide +kernel)
-- the prefix stripper can manufacture a ".." segment; the guard rejects it
example : handlePath (cfgOS (.pfx 2)) (ofString "h") (ofString "/x../secret") = .dotdot := by
  simp only [ofString_eq]
  decide +kernel
example : rewritePath (.pfx 2) (ofString "h") (ofString "/x../secret") = some (ofString "../secret") := by
  simp only [ofString_eq]
  decide +kernel
example : handlePath (cfgOS .none) (ofString "h") (ofString "/a%00b") = .badRequest := by
  simp only [ofString_eq]
  decide +kernel
-- vhost rewriter: host with '/' becomes invalid-host; a ".." host is normalised away
example : handlePath (cfgFS "" (.vhost 1)) (ofString "a/b") (ofString "/img/x.png") =
    .serve (ofString "/invalid-host/x.png") (ofString "invalid-host/x.png") := serve_of_beq _ _ _ (by decide +kernel)
example : handlePath (cfgFS "sub" (.vhost 0)) (ofString "..") (ofString "/x") =
    .serve (ofString "/x") (ofString "sub/x") := serve_of_beq _ _ _ (by decide +kernel)
-- the root directory itself is opened without the compressed suffix; a file gets all the compression names
example : (fsNames (cfgOS .none) true (ofString "h") (ofString "/")).map (·.2) =
    [ofString "/srv/www", ofString "/srv/www/index.html.fasthttp.gz", ofString "/srv/www/index.html",
     ofString "/srv/www/index.html.fasthttp.gz", ofString "/srv/www/index.html", ofString "/srv/z",
     ofString "/srv/z/index.html.fasthttp.gz", ofString "/srv/z/index.html.fasthttp.gz.tmp-",
     ofString "/srv/z/index.html.fasthttp.gz.tmp-", ofString "/srv/z/index.html.fasthttp.gz",
     ofString "/srv/www/index.html", ofString "/srv/www"] := by
  simp only [ofString_eq]
  decide +kernel
example : GoodCfg (cfgOS .none) :=
  ⟨fun _ => by decide +kernel, ⟨by decide +kernel, by decide +kernel, by decide +kernel⟩, fun ix hix => by
    rw [List.mem_singleton.1 hix]
    exact ⟨by decide +kernel, by decide +kernel⟩⟩

-- a fragment (or query) does not protect dot segments from normalisation
example : handleTarget (cfgOS .none) (ofString "h") (ofString "/../secret.txt#frag") =
    .serve (ofString "/secret.txt") (ofString "/srv/www/secret.txt") := serve_of_beq _ _ _ (by decide +kernel)
example : requestPath (ofString "/a/../b#x?y/../..") = ofString "/a/../b" := by
  simp only [ofString_eq]
  decide +kernel
example : requestPath (ofString "/a%23/..?q#f") = ofString "/a%23/.." := by
  simp only [ofString_eq]
  decide +kernel

end Fh.Props.C23

/-! ### what the theorems of this file rest on -/
#print axioms Fh.Props.C23.rewrite_ok
#print axioms Fh.Props.C23.strip_no_panic
#print axioms Fh.Props.C23.no_rewriter_never_dotdot
#print axioms Fh.Props.C23.served_path_clean
#print axioms Fh.Props.C23.nul_rejected
#print axioms Fh.Props.C23.dotdot_after_rewrite_rejected
#print axioms Fh.Props.C23.confinedOS_of_shape
#print axioms Fh.Props.C23.confinedFS_of_shape
#print axioms Fh.Props.C23.confined_of_named
#print axioms Fh.Props.C23.toCompressed_eq
#print axioms Fh.Props.C23.compressNames_named
#print axioms Fh.Props.C23.openNames_named
#print axioms Fh.Props.C23.fsNames_named
#print axioms Fh.Props.C23.opened_path_confined
#print axioms Fh.Props.C23.uri_parse_always_normalises
#print axioms Fh.Props.C23.opened_path_confined_target
#print axioms Fh.Props.C23.serve_of_beq
