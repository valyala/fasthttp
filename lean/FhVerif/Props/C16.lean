/-
C16 — Timed-out handlers cannot affect what is sent.
Models: ownership of the RequestCtx around a timeout (Model/Timeout.lean); the token bound of TimeoutWithCodeHandler
(Model/TimeoutSem.lean).
-/
import FhVerif.Model.Timeout
import FhVerif.Model.TimeoutSem
import FhVerif.Base.Run

namespace Fh.Props.C16
open Fh Fh.Model

/-- the ctx the server reads, the pooled ctxs, the ctxs abandoned to timed-out handlers -/
def owned (w : TWorld) : List Nat := w.serverCtx :: (w.free ++ w.abandoned)

def TInv (w : TWorld) : Prop := (owned w).Nodup ∧ ∀ i ∈ owned w, i < w.next

theorem TInv.srv_not_abandoned {w : TWorld} (h : TInv w) : w.serverCtx ∉ w.abandoned :=
  fun hm => (List.nodup_cons.1 h.1).1 (List.mem_append_right _ hm)

theorem tinv_init : TInv tinit := ⟨List.nodup_cons.2 ⟨nofun, .nil⟩, fun _ h => List.mem_singleton.1 h ▸ Nat.zero_lt_one⟩

theorem tstep_inv (w : TWorld) (e : TEvent) (h : TInv w) : TInv (tstep w e) := by
  cases e with
  | handlerWrite r => exact h
  | requestDone => exact h
  | lateWrite id r =>
    simp only [tstep]; split
    · exact h
    · exact h
  -- acquire from the non-empty pool returns the just released id: the same owned ctxs
  | connDone => exact h
  | timeout resp =>
    simp only [tstep, acquire]
    split
    · rename_i id rest hf
      -- a pooled ctx becomes the server's, the server's an abandoned one: the owned ctxs are permuted
      have hp : (id :: (rest ++ w.serverCtx :: w.abandoned)).Perm (owned w) := by
        rw [owned, hf]
        exact (List.perm_middle.cons id).trans (List.Perm.swap ..)
      exact ⟨hp.nodup_iff.2 h.1, fun i hi => h.2 i (hp.mem_iff.1 hi)⟩
    · rename_i hf
      -- empty pool: the fresh ctx `next` is above every owned one
      simp only [TInv, owned, hf, List.nil_append] at h ⊢
      exact ⟨List.nodup_cons.2 ⟨fun hm => Nat.lt_irrefl _ (h.2 _ hm), h.1⟩,
        fun i hi => (List.mem_cons.1 hi).elim (fun e => e ▸ Nat.lt_succ_self _) fun hi => Nat.lt_succ_of_lt (h.2 i hi)⟩

theorem tinv_run (es : List TEvent) : TInv (es.foldl tstep tinit) := foldl_inv tstep_inv es tinv_init

/-- C16: whatever an abandoned (timed-out) handler writes, and whenever it does so, what the server sends is unchanged -/
theorem late_writes_unobservable (es : List TEvent) (id : Nat) (r : RespData) :
    let w := es.foldl tstep tinit
    wireOf (tstep w (.lateWrite id r)) = wireOf w := by
  intro w
  simp only [tstep, wireOf]
  split
  · rename_i hm
    have : w.serverCtx ≠ id := fun e => (tinv_run es).srv_not_abandoned (e ▸ hm)
    simp [upd, this]
  · rfl

/-- the client receives exactly the timeout response: right after the swap the server's ctx holds the copy -/
theorem timeout_response_exact (w : TWorld) (resp : RespData) : wireOf (tstep w (.timeout resp)) = resp := by
  simp only [tstep, wireOf, acquire]
  split <;> simp [upd]

theorem abandoned_never_reused (es : List TEvent) :
    let w := es.foldl tstep tinit
    w.serverCtx ∉ w.abandoned ∧ ∀ i ∈ w.free, i ∉ w.abandoned := by
  intro w
  have h : TInv w := tinv_run es
  exact ⟨h.srv_not_abandoned, fun i hi hm => (List.nodup_append.1 (List.nodup_cons.1 h.1).2).2.2 i hi i hm rfl⟩

/-! non-vacuity: handler writes, times out, keeps writing; the wire shows the timeout response -/
example : (wireOf ([TEvent.handlerWrite ⟨200, [1], []⟩, .timeout ⟨408, [2], []⟩, .lateWrite 0 ⟨299, [3], []⟩].foldl tstep tinit)).status = 408 := by
  decide

/-! ### "At most Concurrency wrapped handlers run at the same time; excess calls are answered with 429" -/
section Sem
open Fh.Model.TimeoutSem

/-- every token in concurrencyCh belongs to a wrapped handler that is still running, and there are at most `cap` -/
def SemInv (cap : Nat) (s : St) : Prop := s.cap = cap ∧ s.running = s.tokens ∧ s.tokens ≤ cap

theorem sem_step_inv (cap : Nat) (s : St) (e : Ev) (h : SemInv cap s) : SemInv cap (step s e).1 := by
  obtain ⟨h0, h1, h2⟩ := h
  cases e with
  | call =>
    by_cases hc : s.tokens < s.cap
    · rw [show step s .call = _ from if_pos hc]; exact ⟨h0, congrArg (· + 1) h1, h0 ▸ hc⟩
    · rw [show step s .call = _ from if_neg hc]; exact ⟨h0, h1, h2⟩
  | finish =>
    by_cases hc : 0 < s.running
    · rw [show step s .finish = _ from if_pos hc]
      exact ⟨h0, congrArg (· - 1) h1, Nat.le_trans (Nat.sub_le ..) h2⟩
    · rw [show step s .finish = _ from if_neg hc]; exact ⟨h0, h1, h2⟩
  | fire => exact ⟨h0, h1, h2⟩

theorem sem_run_inv (cap : Nat) (es : List Ev) : SemInv cap (run (init cap) es) :=
  foldl_inv (sem_step_inv cap) es ⟨rfl, rfl, Nat.zero_le _⟩

/-- C16 (bound): after any history of calls, handler returns and timeouts — in any order and number — at most
    Concurrency wrapped handlers are running, abandoned ones included -/
theorem at_most_concurrency_running (cap : Nat) (es : List Ev) : (run (init cap) es).running ≤ cap :=
  have ⟨_, hr, hle⟩ := sem_run_inv cap es
  Nat.le_trans (Nat.le_of_eq hr) hle

/-- C16 (429): in every reachable state, a call that finds Concurrency handlers running is rejected and starts nothing;
    a call that finds fewer is started -/
theorem excess_call_rejected (cap : Nat) (es : List Ev) :
    let s := run (init cap) es
    (s.running = cap → step s .call = (s, .rejected)) ∧ (s.running < cap → (step s .call).2 = .started) := by
  intro s
  obtain ⟨hc, hr, hle⟩ : SemInv cap s := sem_run_inv cap es
  exact ⟨fun h => if_neg (by omega), fun h => congrArg Prod.snd (if_pos (show s.tokens < s.cap by omega))⟩

theorem timeout_fire_keeps_slot (s : St) : (step s .fire).1 = s := rfl

/-- once every abandoned handler has returned all slots are free again: the next call is started, not rejected -/
theorem slots_return_when_handlers_finish (cap : Nat) (es : List Ev) (hc : 0 < cap) :
    let s := finishAll (run (init cap) es).running (run (init cap) es)
    s.running = 0 ∧ (step s .call).2 = .started := by
  intro s
  -- finishing as many handlers as are running leaves none, within the invariant
  have key (n : Nat) (t : St) (ht : SemInv cap t) (hr : t.running = n) :
      SemInv cap (finishAll n t) ∧ (finishAll n t).running = 0 := by
    induction n generalizing t with
    | zero => exact ⟨ht, hr⟩
    | succ k ih =>
      have h1 := sem_step_inv cap t .finish ht
      rw [finishAll]
      rw [show step t .finish = _ from if_pos (hr ▸ Nat.succ_pos k)] at h1 ⊢
      exact ih _ h1 (show t.running - 1 = k by omega)
  obtain ⟨⟨hcap, hr, hle⟩, h0⟩ : SemInv cap s ∧ s.running = 0 := key _ _ (sem_run_inv cap es) rfl
  exact ⟨h0, congrArg Prod.snd (if_pos (show s.tokens < s.cap by omega))⟩

/-! non-vacuity: Concurrency 1, a handler that outlives its timeout: the next requests get 429 until it returns -/
example : serve (init 1) [true, false, true] = [408, 429, 429] := by decide
example : serve (init 2) [true, false, true, false] = [408, 200, 408, 429] := by decide
example : (run (init 1) [.call, .fire, .call, .finish, .call]).running = 1 := by decide
example : serveTok (init 2) [1, 1, 0, 2, 0, 1] = [408, 408, 429, 200, 408] := by decide
end Sem

end Fh.Props.C16

/-! ### what the theorems of this file rest on -/
#print axioms Fh.Props.C16.TInv.srv_not_abandoned
#print axioms Fh.Props.C16.tinv_init
#print axioms Fh.Props.C16.tstep_inv
#print axioms Fh.Props.C16.tinv_run
#print axioms Fh.Props.C16.late_writes_unobservable
#print axioms Fh.Props.C16.timeout_response_exact
#print axioms Fh.Props.C16.abandoned_never_reused
#print axioms Fh.Props.C16.sem_step_inv
#print axioms Fh.Props.C16.sem_run_inv
#print axioms Fh.Props.C16.at_most_concurrency_running
#print axioms Fh.Props.C16.excess_call_rejected
#print axioms Fh.Props.C16.timeout_fire_keeps_slot
#print axioms Fh.Props.C16.slots_return_when_handlers_finish
