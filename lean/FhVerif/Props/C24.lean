/-
C24 — every range ParseByteRange accepts satisfies 0 ≤ start ≤ end < length.
(The response-level part of C24 — 206/416/304/200 bodies and headers — is decided by the end-to-end monitor of
the C24 harness over real files; it involves the OS file system and is not modelled here: see DESIGN.md.)
-/
import FhVerif.Model.ByteRange
import FhVerif.Props.C30

namespace Fh.Props.C24
open Fh Fh.Model

theorem parseUint_nonneg (w : Nat) (hw : w = 64 ∨ w = 32) (b : Bytes) (n : Int) (h : parseUint w b = .ok n) : 0 ≤ n := by
  have := (C30.parseUint_exact w hw b n).1 h
  rw [this.2.2.2]; exact Int.natCast_nonneg _

theorem ok_of_guard {ε α : Type} {c : Prop} [Decidable c] {e : ε} {x : Except ε α} {p : α}
    (h : (if c then .error e else x) = .ok p) : ¬ c ∧ x = .ok p := by
  by_cases hc : c
  · rw [if_pos hc] at h; cases h
  · exact ⟨hc, by rwa [if_neg hc] at h⟩

theorem ok_of_parse {w : Nat} (hw : w = 64 ∨ w = 32) {b : Bytes} {f : Int → Except BRErr (Int × Int)} {p : Int × Int}
    (h : (match parseUint w b with | .error _ => Except.error BRErr.badInt | .ok v => f v) = .ok p) :
    ∃ v, 0 ≤ v ∧ f v = .ok p := by
  cases hb : parseUint w b with
  | error _ => rw [hb] at h; cases h
  | ok v => rw [hb] at h; exact ⟨v, parseUint_nonneg w hw b v hb, h⟩

/-- C24 (range half): every accepted range is non-empty and inside the content. -/
theorem accepted_range_valid (w : Nat) (hw : w = 64 ∨ w = 32) (br : Bytes) (cl s e : Int)
    (h : parseByteRange w br cl = .ok (s, e)) : 0 ≤ s ∧ s ≤ e ∧ e < cl := by
  unfold parseByteRange at h
  obtain ⟨-, h⟩ := ok_of_guard h
  cases hd : br.drop strBytes.length with
  | nil => rw [hd] at h; cases h
  | cons c b =>
    rw [hd] at h
    obtain ⟨-, h⟩ := ok_of_guard h
    cases hr : b.dropWhile (· != 45) with
    | nil => rw [hr] at h; cases h
    | cons _ after =>
      rw [hr] at h; dsimp only at h
      by_cases hbe : (b.takeWhile (· != 45)).isEmpty = true
      · -- suffix range
        rw [if_pos hbe] at h
        obtain ⟨v, hv, h⟩ := ok_of_parse hw h
        obtain ⟨hcl, h⟩ := ok_of_guard h
        obtain ⟨hv0, h⟩ := ok_of_guard h
        cases h; omega
      · rw [if_neg hbe] at h
        obtain ⟨s', hs', h⟩ := ok_of_parse hw h
        obtain ⟨hs, h⟩ := ok_of_guard h
        by_cases hae : after.isEmpty = true
        · rw [if_pos hae] at h; cases h; omega
        · rw [if_neg hae] at h
          obtain ⟨e', he', h⟩ := ok_of_parse hw h
          obtain ⟨hes, h⟩ := ok_of_guard h
          cases h
          split at hes <;> split <;> omega

theorem parseUint_zero : parseUint 64 [48] = .ok 0 := by
  have := C30.parseUint_accepts Proofs.IntCodec.widthOK64 [48] (by simp) (by decide) (by decide)
  simpa [Spec.decVal, Spec.decFrom, Spec.dstep] using this

/-- a zero-length suffix range ("bytes=-0") is rejected whatever the content length -/
theorem suffix_zero_rejected (cl : Int) :
    ∃ e, parseByteRange 64 [98, 121, 116, 101, 115, 61, 45, 48] cl = .error e := by
  have : parseByteRange 64 [98, 121, 116, 101, 115, 61, 45, 48] cl =
      if cl ≤ 0 then .error .emptyContent else .error .zeroSuffix := by
    simp [parseByteRange, hasPrefix, strBytes, parseUint_zero]
  rw [this]; split <;> exact ⟨_, rfl⟩

example : ∃ s e, parseByteRange 64 [98, 121, 116, 101, 115, 61, 45, 48] 10 ≠ .ok (s, e) := ⟨0, 0, by
  obtain ⟨e, he⟩ := suffix_zero_rejected 10; rw [he]; simp⟩

theorem partial_content_slice_valid (w : Nat) (hw : w = 64 ∨ w = 32) (cl : Int) (ims : Bool) (range : Bytes) (s e : Int)
    (h : fsDecision w cl ims range = ⟨206, some (s, e), false⟩) : 0 ≤ s ∧ s ≤ e ∧ e < cl := by
  unfold fsDecision at h
  split at h; · cases h
  split at h; · cases h
  split at h
  · cases h
  · cases h; exact accepted_range_valid w hw range cl _ _ ‹_›

/-- 304 takes precedence; without a Range header the full content is sent; an unparsable/unsatisfiable range gives 416 -/
theorem fs_decision_cases (w : Nat) (cl : Int) (ims : Bool) (range : Bytes) :
    (ims = true → (fsDecision w cl ims range).status = 304) ∧
    (ims = false → range = [] → fsDecision w cl ims range = ⟨200, none, true⟩) ∧
    (ims = false → range ≠ [] → (∃ e, parseByteRange w range cl = .error e) → (fsDecision w cl ims range).status = 416) := by
  refine ⟨?_, ?_, ?_⟩
  · rintro rfl; rfl
  · rintro rfl rfl; rfl
  · rintro rfl hr ⟨e, he⟩
    rw [fsDecision, if_neg Bool.false_ne_true, if_neg (by simpa using hr), he]

end Fh.Props.C24

/-! ### what the theorems of this file rest on -/
#print axioms Fh.Props.C24.parseUint_nonneg
#print axioms Fh.Props.C24.ok_of_guard
#print axioms Fh.Props.C24.ok_of_parse
#print axioms Fh.Props.C24.accepted_range_valid
#print axioms Fh.Props.C24.parseUint_zero
#print axioms Fh.Props.C24.suffix_zero_rejected
#print axioms Fh.Props.C24.partial_content_slice_valid
#print axioms Fh.Props.C24.fs_decision_cases
