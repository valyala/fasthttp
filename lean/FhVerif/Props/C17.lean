/-
C17 — Hijacked connections are handed over intact.
Model: Model/Hijack.lean: the bufio.Reader a hijack handler reads from, and the order of actions around a hijack.
-/
import FhVerif.Model.Hijack

namespace Fh.Props.C17
open Fh Fh.Model

theorem discard_remaining (r : BR) (k : Nat) : (r.discard k).remaining = r.remaining.drop k := by
  unfold BR.discard BR.remaining
  split
  · exact (List.drop_append_of_le_length ‹_›).symm
  · rw [List.drop_append, List.drop_eq_nil_of_le (as := r.buf) (Nat.le_of_not_le ‹_›)]
    simp

/-- the `if` of `BR.read`: an arrival chunk read to its end is dropped -/
theorem flatten_skip_empty (d : Bytes) (rest : List Bytes) :
    (if d.isEmpty then rest else d :: rest).flatten = d ++ rest.flatten := by
  cases d <;> rfl

theorem read_prefix (r : BR) (n : Nat) : (r.read n).1 ++ (r.read n).2.remaining = r.remaining := by
  unfold BR.read BR.remaining
  cases hb : r.buf with
  | cons x xs => simp [← List.append_assoc, List.take_append_drop]
  | nil =>
    cases hc : r.chunks with
    | nil => simp [hb, hc]
    | cons c rest =>
      simp only [List.nil_append, flatten_skip_empty, List.flatten_cons, ← List.append_assoc, List.take_append_drop]

/-- whatever sizes the hijack handler reads with, the bytes it gets are a prefix of the remaining stream … -/
theorem readMany_prefix (sizes : List Nat) : ∀ r : BR, ∃ rest, r.readMany sizes ++ rest = r.remaining := by
  induction sizes with
  | nil => intro r; exact ⟨r.remaining, by simp [BR.readMany]⟩
  | cons n ns ih =>
    intro r
    obtain ⟨rest, h⟩ := ih (r.read n).2
    refine ⟨rest, ?_⟩
    simp only [BR.readMany, List.append_assoc, h]
    exact read_prefix r n

/-- … and a read of positive size returns at least one byte while the stream has any -/
theorem read_progress (r : BR) (n : Nat) (hn : 0 < n) (hrem : r.remaining ≠ []) (hne : ∀ c ∈ r.chunks, c ≠ []) :
    (r.read n).1 ≠ [] := by
  unfold BR.read
  cases hb : r.buf with
  | cons x xs => simp; omega
  | nil =>
    cases hc : r.chunks with
    | nil => simp [BR.remaining, hb, hc] at hrem
    | cons c rest =>
      have := hne c (by simp [hc])
      cases c with
      | nil => exact absurd rfl this
      | cons y ys => simp; omega

/-- C17: the hijack handler is handed the reader in a state whose remaining stream is exactly the client's bytes after
    the hijacking request — for every split of the input into arrival chunks and every amount already buffered. -/
theorem hijack_reads_exact_suffix (input : Bytes) (chunks : List Bytes) (buffered : Nat) (frameEnd : Nat)
    (hsplit : chunks.flatten = input.drop buffered) (hbuf : buffered ≤ input.length) :
    let r : BR := { buf := input.take buffered, chunks := chunks }
    (r.discard frameEnd).remaining = input.drop frameEnd := by
  intro r
  rw [discard_remaining]
  simp only [BR.remaining, r, hsplit, List.take_append_drop]

-- request of 5 bytes, 8 bytes already buffered, rest arrives in two chunks
example : (({ buf := [1,2,3,4,5,6,7,8], chunks := [[9,10],[11]] } : BR).discard 5).readMany [2, 2, 2, 2] = [6,7,8,9,10,11] := by
  decide

/-- the response is written and flushed before the hijack handler runs, unless suppressed; deadlines are cleared first;
    the connection is closed after the handler exactly when it is not kept -/
theorem response_flushed_before_handler (keep : Bool) :
    hijackActions false keep = [.writeResponse, .flush, .clearDeadlines, .runHandler] ++ (if keep then [] else [.closeConn]) := by
  cases keep <;> rfl

theorem no_response_when_suppressed (keep : Bool) : HjAction.writeResponse ∉ hijackActions true keep := by
  cases keep <;> decide

theorem closed_after_handler_iff_not_keep (noResponse keep : Bool) :
    HjAction.closeConn ∈ hijackActions noResponse keep ↔ keep = false := by
  cases noResponse <;> cases keep <;> decide

/-- what a request is entitled to, from ITS OWN handler's calls only -/
def ownOut (r : HjReq) : HjOut := ⟨r.hijack && !r.timedOut, r.setNoResp && r.hijack && !r.timedOut⟩

theorem hjIter_fresh (r : HjReq) : hjIter {} r = ({}, ownOut r) := by
  cases r with
  | mk a b c => cases a <;> cases b <;> cases c <;> rfl

/-- C17 (flags): on a connection carrying any sequence of requests, whether request k's response is suppressed and
    whether the connection is hijacked after it depend on what ITS OWN handler asked for — a `HijackSetNoResponse(true)`
    that was not followed by `Hijack`, or a hijack asked for by a handler that then timed out, changes nothing for
    later requests -/
theorem hijack_flags_are_per_request (rs : List HjReq) :
    ∀ p ∈ (hjRun {} rs).zip rs, p.1 = ownOut p.2 := by
  induction rs with
  | nil => exact fun _ hp => nomatch hp
  | cons r rest ih =>
    intro p hp
    simp only [hjRun, hjIter_fresh, List.zip_cons_cons] at hp
    rcases List.mem_cons.1 hp with rfl | hp
    · rfl
    -- the later requests are served only if this one did not hijack, and then from a fresh ctx again
    · split at hp
      · cases hp
      · exact ih p hp

theorem no_suppression_without_hijack (r : HjReq) (h : r.hijack = false) : (ownOut r).suppressed = false := by
  simp [ownOut, h]

/-! non-vacuity: HijackSetNoResponse(true) by request 1 does not suppress the response of request 2, which hijacks -/
example : hjRun {} [⟨true, false, false⟩, ⟨false, true, false⟩] = [⟨false, false⟩, ⟨true, false⟩] := by decide
example : hjRun {} [⟨true, true, true⟩, ⟨false, false, false⟩] = [⟨false, false⟩, ⟨false, false⟩] := by decide

end Fh.Props.C17

/-! ### what the theorems of this file rest on -/
#print axioms Fh.Props.C17.discard_remaining
#print axioms Fh.Props.C17.flatten_skip_empty
#print axioms Fh.Props.C17.read_prefix
#print axioms Fh.Props.C17.readMany_prefix
#print axioms Fh.Props.C17.read_progress
#print axioms Fh.Props.C17.hijack_reads_exact_suffix
#print axioms Fh.Props.C17.response_flushed_before_handler
#print axioms Fh.Props.C17.no_response_when_suppressed
#print axioms Fh.Props.C17.closed_after_handler_iff_not_keep
#print axioms Fh.Props.C17.hjIter_fresh
#print axioms Fh.Props.C17.hijack_flags_are_per_request
#print axioms Fh.Props.C17.no_suppression_without_hijack
