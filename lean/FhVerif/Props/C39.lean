/-
C39 — Prefork keeps its children supervised and never orphans them.

Every theorem quantifies over ARBITRARY event lists of `Model.Prefork.step` from `State.init G T backoffOn`: every
interleaving of the master goroutine, the per-child `startWait` goroutines and the environment (children exiting at
any moment, spawn failures, hook errors, the grace timer firing or not), for every GOMAXPROCS `G`, RecoverThreshold
`T` and RecoverInterval zero / positive.
Residue (named in the evidence): the kernel delivers SIGTERM/SIGKILL and does not hand out the
same pid twice during one call; the timers fire after the configured durations.
-/
import FhVerif.Proofs.Prefork

namespace Fh.Props.C39
open Fh Fh.Model.Prefork Fh.Proofs.Prefork

private theorem reach {G T : Nat} {b : Bool} {evs : List Ev} {s : State}
    (hr : run (State.init G T b) evs = some s) : Proofs.Prefork.Inv s ∧ s.G = G ∧ s.T = T ∧ s.backoffOn = b :=
  ⟨inv_run evs _ s (inv_init G T b) hr, run_frame evs _ s hr⟩

/-- **Fleet size.**  Whenever the supervision loop waits for the next exit, `childProcs` holds exactly GOMAXPROCS
    children (alive, or dead with the exit still in the backoff / in `sigCh`), and every exit counted so far was
    answered by exactly one replacement. -/
theorem fleet_size (G T : Nat) (b : Bool) (evs : List Ev) (s : State)
    (hr : run (State.init G T b) evs = some s) (hw : s.pc = .waiting) :
    live s = G ∧ s.kids.length = G + s.exited ∧ s.recovered = s.exited ∧ s.exited ≤ T := by
  obtain ⟨hinv, hG, hT, _⟩ := reach hr
  have hp := hinv.pcI
  simp only [hw, PcP] at hp
  omega

/-- A child is removed from `childProcs` only after `cmd.Wait` returned for it, and with a positive RecoverInterval
    only after its backoff timer fired. -/
theorem reported_child_was_reaped (G T : Nat) (b : Bool) (evs : List Ev) (s : State)
    (hr : run (State.init G T b) evs = some s) (i : Nat) (c : Child) (hc : s.kids[i]? = some c) :
    (c.delivered = true → c.proc = .reaped ∧ (b = true → c.backedOff = true)) ∧
    (c.reported = true → c.delivered = true) :=
  have hk := (reach hr).1.k.kid i c hc
  ⟨fun hd => ⟨hk.reaped (hk.deliv_done hd), fun hbt => hk.backoff ((reach hr).2.2.2.trans hbt) (.inr hd)⟩, hk.rep_deliv⟩

/-- **Restart until the threshold.**  While fewer than RecoverThreshold exits have been counted, the loop answers the
    next reported exit by a recovery: the receive is enabled, leads to `doCommand`, and once the replacement started
    and `OnChildSpawn` accepted it the loop waits again with a full fleet. -/
theorem restart_until_threshold (G T : Nat) (b : Bool) (evs : List Ev) (s : State)
    (hr : run (State.init G T b) evs = some s) (hw : s.pc = .waiting) (i : Nat) (rest : List Nat)
    (hsig : s.sigCh = i :: rest) (hlt : s.exited < T) :
    ∃ s1 s2 s3, step s .recv = some s1 ∧ s1.pc = .respawn i ∧ s1.exited = s.exited + 1 ∧
      step s1 .spawnOk = some s2 ∧ step s2 .hookOk = some s3 ∧ s3.pc = .waiting ∧ live s3 = G ∧
      s3.kids.length = s.kids.length + 1 := by
  obtain ⟨hinv, hG, hT, _⟩ := reach hr
  obtain ⟨c, h1⟩ := step_recv hinv hw hsig
  rw [if_neg (show ¬ s.exited + 1 > s.T by omega)] at h1
  have hp := (inv_step .hookOk (inv_step .spawnOk (inv_step .recv hinv h1) rfl) rfl).pcI
  exact ⟨_, _, _, h1, rfl, rfl, rfl, rfl, rfl, hG ▸ hp.1, by simp⟩

/-- **ErrOverRecovery.**  The exit that makes the count exceed RecoverThreshold is not answered by a restart: the loop
    leaves with `ErrOverRecovery` (through the teardown). -/
theorem over_recovery_returns_ErrOverRecovery (G T : Nat) (b : Bool) (evs : List Ev) (s : State)
    (hr : run (State.init G T b) evs = some s) (hw : s.pc = .waiting) (i : Nat) (rest : List Nat)
    (hsig : s.sigCh = i :: rest) (heq : s.exited = T) :
    ∃ s1, step s .recv = some s1 ∧ s1.pc = .shutCancel .overRecovery := by
  obtain ⟨hinv, hG, hT, _⟩ := reach hr
  obtain ⟨c, h1⟩ := step_recv hinv hw hsig
  exact ⟨_, h1, if_pos (by omega)⟩

/-- `prefork` returns `ErrOverRecovery` exactly when more than RecoverThreshold children have exited (then `T + 1`
    exits were counted and `T` replacements started); any other error leaves the count within the threshold. -/
theorem returned_error_matches_count (G T : Nat) (b : Bool) (evs : List Ev) (s : State) (e : Err)
    (hr : run (State.init G T b) evs = some s) (hret : s.pc = .returned e) :
    (e = .overRecovery ↔ s.exited > T) ∧
    (e = .overRecovery → s.exited = T + 1 ∧ s.kids.length = G + T ∧ s.recovered = T) ∧
    s.kids.length ≤ G + T := by
  obtain ⟨hinv, hG, hT, _⟩ := reach hr
  have hp := hinv.pcI
  simp only [hret, PcP, ErrP] at hp
  obtain ⟨h1, h2, h3, h4⟩ := hp
  refine ⟨⟨fun h => by have := h1 h; omega, fun h => ?_⟩, fun h => by have := h1 h; omega, by omega⟩
  exact Classical.byContradiction fun he => by have := h2 he; omega

/-- **Teardown is total.**  On EVERY return path (spawn failure, hook error, OnMasterReady error, ErrOverRecovery),
    for every child the call ever started: its process has been reaped and its `startWait` goroutine has returned
    before `prefork` returns; it was sent SIGTERM unless its exit had already been received; and if the grace period
    expired it was sent SIGKILL as well. -/
theorem teardown_total (G T : Nat) (b : Bool) (evs : List Ev) (s : State) (e : Err)
    (hr : run (State.init G T b) evs = some s) (hret : s.pc = .returned e) :
    ∀ c ∈ s.kids, c.proc = .reaped ∧ c.w = .done ∧
      (c.reported = true ∨ c.termed = true) ∧
      (s.graceFired = true → c.reported = true ∨ c.killed = true) := by
  intro c hc
  have hinv := (reach hr).1
  have hs := hinv.shI
  rw [hret] at hs
  obtain ⟨_, hterm, hkill, hdone⟩ := hs
  obtain ⟨i, hi⟩ := List.getElem?_of_mem hc
  refine ⟨(hinv.k.kid i c hi).reaped (hdone c hc), hdone c hc, ?_, fun g => ?_⟩ <;> cases hrp : c.reported
  · exact .inr (hterm c hc hrp)
  · exact .inl rfl
  · exact .inr (hkill g c hc hrp)
  · exact .inl rfl

/-- Signals are sent only by the teardown: SIGTERM only after `cancel()`, SIGKILL only after the grace timer fired
    and only to a child sent SIGTERM before; a killed child is not alive. -/
theorem kill_only_after_grace (G T : Nat) (b : Bool) (evs : List Ev) (s : State)
    (hr : run (State.init G T b) evs = some s) (i : Nat) (c : Child) (hc : s.kids[i]? = some c) :
    (c.termed = true → s.cancelled = true) ∧
    (c.killed = true → s.graceFired = true ∧ c.termed = true ∧ c.proc ≠ .alive) :=
  ⟨((reach hr).1.k.kid i c hc).termed_c, ((reach hr).1.k.kid i c hc).killed_g⟩

/-- After the kill loop no child of this call is alive: the final `wg.Wait()` waits only for goroutines of the
    master itself, never for a process that may run forever. -/
theorem no_live_child_after_kill (G T : Nat) (b : Bool) (evs : List Ev) (s : State) (e : Err)
    (hr : run (State.init G T b) evs = some s) (hpc : s.pc = .finalWait e) :
    ∀ c ∈ s.kids, c.proc ≠ .alive :=
  noLive_final (reach hr).1 hpc

/-- The final wait cannot block: either `wg.Wait()` returns or some `startWait` goroutine can take a step (reap its
    zombie, or leave through the cancelled context). -/
theorem teardown_never_stuck (G T : Nat) (b : Bool) (evs : List Ev) (s : State) (e : Err)
    (hr : run (State.init G T b) evs = some s) (hpc : s.pc = .finalWait e) :
    ∃ ev s', step s ev = some s' := by
  have hinv := (reach hr).1
  have hs := hinv.shI
  rw [hpc] at hs
  by_cases hall : allDone s = true
  · exact ⟨.finalDone, { s with pc := .returned e }, by simp only [step, hpc, hall, if_true]⟩
  · obtain ⟨c, hc, hw⟩ : ∃ c ∈ s.kids, c.w ≠ .done := by simpa [allDone_iff, AllDone] using hall
    obtain ⟨i, hi⟩ := List.getElem?_of_mem hc
    cases hcw : c.w with
    | done => exact absurd hcw hw
    | waiting =>
      have hz : c.proc = .zombie := by
        cases hp : c.proc with
        | zombie => rfl
        | alive => exact absurd hp (noLive_final hinv hpc c hc)
        | reaped => exact absurd hp ((hinv.k.kid i c hi).wproc.mp hcw)
      exact ⟨.waitReturns i, Option.isSome_iff_exists.mp (by simp [step, updKid, hi, hz, hcw])⟩
    | backoff | sending => exact ⟨.ctxDone i, Option.isSome_iff_exists.mp (by simp [step, updKid, hi, hs.1, hcw])⟩

/-- **The final wait terminates.**  From the final `wg.Wait()` on every continuation is short: at most three steps
    per unfinished `startWait` goroutine plus the return itself.  With `teardown_never_stuck` (some step is enabled
    until the return): `prefork` returns after the kill loop, whatever the children do. -/
theorem teardown_terminates (G T : Nat) (b : Bool) (evs : List Ev) (s : State) (e : Err)
    (hr : run (State.init G T b) evs = some s) (hpc : s.pc = .finalWait e) (more : List Ev) (s' : State)
    (hmore : run s more = some s') : more.length ≤ 3 * s.kids.length + 1 :=
  Nat.le_trans (final_run_bounded more s s' e (reach hr).1 hpc hmore) (Nat.succ_le_succ (mu_le s))

/-- After `prefork` returned nothing it started can move: no wait goroutine outlives the call, no child is left to
    exit. -/
theorem nothing_outlives_prefork (G T : Nat) (b : Bool) (evs : List Ev) (s : State) (e : Err)
    (hr : run (State.init G T b) evs = some s) (hret : s.pc = .returned e) (ev : Ev) : step s ev = none :=
  returned_no_step (reach hr).1 hret ev

/-- G = 2, T = 1, no backoff: child 0 crashes and is replaced, child 1 crashes → ErrOverRecovery; the replacement
    ignores SIGTERM, the grace timer fires, it is killed, reaped, and only then prefork returns. -/
private def crashTwice : List Ev :=
  [.spawnOk, .hookOk, .spawnOk, .hookOk, .readyOk,
   .childExit 0, .waitReturns 0, .deliver 0, .recv, .spawnOk, .hookOk,
   .childExit 1, .waitReturns 1, .deliver 1, .recv,
   .cancel, .sigterm, .graceTimeout, .kill, .waitReturns 2, .ctxDone 2, .finalDone]

example : ((run (State.init 2 1 false) crashTwice).map fun s => (s.pc, s.exited, s.kids.length, s.recovered, s.graceFired))
  = some (.returned .overRecovery, 2, 3, 1, true) := by decide
example : ((run (State.init 2 1 false) crashTwice).map fun s => s.kids)
  = some [⟨.reaped, .done, false, false, false, true, true⟩, ⟨.reaped, .done, false, false, false, true, true⟩,
          ⟨.reaped, .done, true, true, false, false, false⟩] := by decide

/-- the loop waits with a full fleet after the first recovery -/
example : ((run (State.init 2 1 false) (crashTwice.take 11)).map fun s => (s.pc, live s, s.exited)) =
    some (.waiting, 2, 1) := by decide

/-- the final wait really waits: `finalDone` is not enabled while the killed child is not reaped -/
example : run (State.init 2 1 false) (crashTwice.take 19 ++ [.finalDone]) = none := by decide

/-- spawn failure in the initial loop with a backoff configured: the first child exits by itself, its goroutine sits
    in the backoff and leaves through the cancelled context; all are reaped gracefully, nobody is killed -/
example : ((run (State.init 3 2 true)
    [.spawnOk, .hookOk, .childExit 0, .waitReturns 0, .spawnOk, .hookOk, .spawnFail,
     .cancel, .sigterm, .childExit 1, .waitReturns 1, .ctxDone 0, .ctxDone 1, .graceDone]).map fun s =>
    (s.pc, s.graceFired, s.kids))
  = some (.returned .spawn, false,
      [⟨.reaped, .done, true, false, false, false, false⟩, ⟨.reaped, .done, true, false, false, false, false⟩]) := by decide

/-- with a positive RecoverInterval the exit cannot be delivered before the backoff timer fired -/
example : run (State.init 1 0 true) [.spawnOk, .hookOk, .readyOk, .childExit 0, .waitReturns 0, .deliver 0] = none := by
  decide
example : ((run (State.init 1 0 true)
    [.spawnOk, .hookOk, .readyOk, .childExit 0, .waitReturns 0, .backoffDone 0, .deliver 0, .recv]).map (·.pc))
  = some (.shutCancel .overRecovery) := by decide

/-- hook error on the very first child: that child is still signalled and reaped -/
example : ((run (State.init 2 1 false)
    [.spawnOk, .hookErr, .cancel, .sigterm, .childExit 0, .waitReturns 0, .ctxDone 0, .graceDone]).map fun s =>
    (s.pc, s.kids.map fun c => (c.proc, c.termed))) = some (.returned .hook, [(.reaped, true)]) := by decide

/-- `finalWait` is reached with work left (a killed child not yet reaped), and once `prefork` has returned the
    replacement cannot exit any more -/
example : (run (State.init 2 1 false) (crashTwice.take 19)).map (·.pc) = some (.finalWait .overRecovery) := by decide
example : ((run (State.init 2 1 false) crashTwice).bind fun s => step s (.childExit 2)) = none := by decide

end Fh.Props.C39

/-! ### what the theorems of this file rest on -/
#print axioms Fh.Props.C39.fleet_size
#print axioms Fh.Props.C39.reported_child_was_reaped
#print axioms Fh.Props.C39.restart_until_threshold
#print axioms Fh.Props.C39.over_recovery_returns_ErrOverRecovery
#print axioms Fh.Props.C39.returned_error_matches_count
#print axioms Fh.Props.C39.teardown_total
#print axioms Fh.Props.C39.kill_only_after_grace
#print axioms Fh.Props.C39.no_live_child_after_kill
#print axioms Fh.Props.C39.teardown_never_stuck
#print axioms Fh.Props.C39.teardown_terminates
#print axioms Fh.Props.C39.nothing_outlives_prefork
