/-
C28 — Query arguments behave as an ordered multimap and round-trip.
-/
import FhVerif.Proofs.Args
import FhVerif.Base.OfString

namespace Fh.Props.C28
open Fh Fh.Model Fh.Spec Fh.Proofs.Args

/-- abstraction map: the argsKV slice read as the reference multimap -/
def abs (l : ArgList) : MM := l.map fun e => ⟨e.key, e.value⟩

theorem abs_cons (e : KV) (l : ArgList) : abs (e :: l) = ⟨e.key, e.value⟩ :: abs l := rfl

theorem add_refines (l : ArgList) (k : Bytes) (v : Option Bytes) : abs (appendArg l k v) = (abs l).add k v := by
  simp [abs, appendArg, MM.add]

theorem set_refines (l : ArgList) (k : Bytes) (v : Option Bytes) : abs (setArg l k v) = (abs l).set k v := by
  induction l with
  | nil => rfl
  | cons e rest ih =>
    rw [setArg, MM.set, abs_cons, List.findIdx?_cons]
    by_cases h : e.key = k
    · rw [if_pos h, if_pos (decide_eq_true h), abs_cons, h]; rfl
    · rw [if_neg h, if_neg (by simpa using h), abs_cons, ih, MM.set]
      cases List.findIdx? (fun x : Entry => decide (x.key = k)) (abs rest) <;> rfl

theorem del_is_filter (l : ArgList) (k : Bytes) : delAllArgsStable l k = l.filter (fun e => e.key ≠ k) := by
  induction l with
  | nil => rfl
  | cons e rest ih => by_cases h : e.key = k <;> simp [delAllArgsStable, h, ih]

theorem del_refines (l : ArgList) (k : Bytes) : abs (delAllArgsStable l k) = (abs l).del k := by
  rw [del_is_filter, abs, MM.del, abs, List.filter_map]; rfl

theorem peek_refines (l : ArgList) (k : Bytes) : peekArg l k = (abs l).peek k := by
  induction l with
  | nil => rfl
  | cons e rest ih => by_cases h : e.key = k <;> simp [peekArg, ih, abs_cons, MM.peek, h, KV.val]

theorem peekMulti_refines (l : ArgList) (k : Bytes) : peekAll l k = (abs l).peekMulti k := by
  induction l with
  | nil => rfl
  | cons e rest ih => by_cases h : e.key = k <;> simp [peekAll, ih, abs_cons, MM.peekMulti, h, KV.val]

theorem has_refines (l : ArgList) (k : Bytes) : hasArg l k = (abs l).has k := by
  induction l with
  | nil => rfl
  | cons e rest ih => simp [hasArg, ih, abs_cons, MM.has]

theorem len_refines (l : ArgList) : l.length = (abs l).length := by simp [abs]

inductive Op
  | add (k : Bytes) (v : Option Bytes)
  | set (k : Bytes) (v : Option Bytes)
  | del (k : Bytes)

def stepImpl (l : ArgList) : Op → ArgList
  | .add k v => appendArg l k v
  | .set k v => setArg l k v
  | .del k => delAllArgsStable l k

def stepSpec (m : MM) : Op → MM
  | .add k v => m.add k v
  | .set k v => m.set k v
  | .del k => m.del k

/-- C28: for any sequence of Add/Set/SetNoValue/Del operations the args list is the ordered multimap
    reached by the same operations; hence Peek/PeekMulti/Has/Len/All agree with it (`*_refines`). -/
theorem ops_refine_multimap (ops : List Op) : abs (ops.foldl stepImpl []) = ops.foldl stepSpec [] :=
  (List.foldl_hom abs (g₁ := stepImpl) (g₂ := stepSpec) (init := [])
    fun l op => by cases op <;> simp only [stepImpl, stepSpec, add_refines, set_refines, del_refines]).symm

theorem dec_enc (s : Bytes) : decodeArg (appendQuotedArg s) = s := decode_quote s

theorem enc_has_no_separators (s : Bytes) : ∀ x ∈ appendQuotedArg s, x ≠ 38 ∧ x ≠ 61 := quote_no_sep s

/-- C28: parsing QueryString() yields the same ordered (key, value, has '=') list,
    except entries whose key and value are both empty. -/
theorem parse_serialise_roundtrip (l : ArgList) :
    parseArgs (argsAppendBytes l) = l.filter (fun e => !e.isBlank) := by
  cases l with
  | nil => rfl
  | cons e rest =>
    rw [parseArgs, argsAppendBytes,
      splitAmp_join _ (by simp) (List.forall_mem_map.2 fun e _ => encEntry_no_amp e), List.map_map]
    simp only [Function.comp_def, parseEntry_enc, List.map_id']

example : parseArgs (ofString "a=1&b&&c=%26+x") =
    [⟨ofString "a", some (ofString "1")⟩, ⟨ofString "b", none⟩, ⟨ofString "c", some (ofString "& x")⟩] := by
  simp only [ofString_eq]
  decide +kernel
example : argsAppendBytes [⟨ofString "k=&", some (ofString "v v")⟩, ⟨ofString "n", none⟩] = ofString "k%3D%26=v+v&n" := by
  simp only [ofString_eq]
  decide +kernel

end Fh.Props.C28

/-! ### what the theorems of this file rest on -/
#print axioms Fh.Props.C28.abs_cons
#print axioms Fh.Props.C28.add_refines
#print axioms Fh.Props.C28.set_refines
#print axioms Fh.Props.C28.del_is_filter
#print axioms Fh.Props.C28.del_refines
#print axioms Fh.Props.C28.peek_refines
#print axioms Fh.Props.C28.peekMulti_refines
#print axioms Fh.Props.C28.has_refines
#print axioms Fh.Props.C28.len_refines
#print axioms Fh.Props.C28.ops_refine_multimap
#print axioms Fh.Props.C28.dec_enc
#print axioms Fh.Props.C28.enc_has_no_separators
#print axioms Fh.Props.C28.parse_serialise_roundtrip
