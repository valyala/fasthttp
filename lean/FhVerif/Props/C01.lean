/-
C01 — Server request framing follows RFC 9112 (no request smuggling).

What is proved here (for every list of field lines): fasthttp's framing decision (Model.parseDecision, mirroring
RequestHeader.parseHeaders + validate, tied to header.go by field-level correspondence) never frames a request
differently from RFC 9112 §6.3 (Spec.Rfc.framingOf), rejects everything the RFC calls invalid, and marks
`connectionClose` whenever the RFC calls the framing ambiguous; and in the serve loop nothing is dispatched after a
request that asked for close.  Partial: the byte-level head scanner and body readers are not modelled here; the
byte-level statement is decided on concrete streams by the reference framer `Spec.Rfc.frame` used as monitor.
-/
import FhVerif.Proofs.ReqFraming
import FhVerif.Proofs.RfcProgress
import FhVerif.Base.OfString

namespace Fh.Props.C01
open Fh Fh.Model Fh.Spec.Rfc Fh.Proofs.ReqFraming

/-- the scanner's output: validated names (in particular no CR) and OWS-trimmed values -/
def Scanned (fs : List (Bytes × Bytes)) : Prop := ∀ f ∈ fs, (∀ x ∈ f.1, x ≠ 13) ∧ trimWs f.2 = f.2

/- The full statement of C01 quantifies over byte streams: the sequence of requests the server dispatches is a
   prefix of `(Spec.Rfc.frame input).1` (same method, target, body and boundaries) and nothing follows an `ambiguous`
   message.  It is evaluated on every generated stream by the C01 harness against the real server
   (key `dispatch-differs` / `dispatch-beyond-reference-*` / `continued-after-ambiguous`); the theorems below prove the
   decision logic behind it for all field lists. -/

/-- C01 (decision logic): whenever fasthttp accepts a head, its body framing is the one RFC 9112 §6.3 assigns,
    RFC-invalid framing is never accepted, and RFC-ambiguous framing forces `Connection: close`. -/
theorem framing_agrees_partial (noH11 : Bool) (fs : List (Bytes × Bytes)) (hs : Scanned fs) (cl : Int) (close : Bool)
    (h : parseDecision noH11 fs = .ok cl close) :
    match framingOf (!noH11) fs with
    | .invalid => False
    | .noBody => cl = -2
    | .length n amb => (cl = (n : Int) ∨ (n = 0 ∧ cl = -2)) ∧ (amb = true → close = true)
    | .chunked amb => cl = -1 ∧ (amb = true → close = true) := by
  unfold parseDecision at h
  split at h
  · cases h
  · rename_i st hloop
    obtain ⟨c, t, hinv⟩ := loop_inv fs (inv_init noH11) hs hloop
    rw [List.nil_append] at hinv
    split at h
    · cases h
    · injection h with hcl hclose
      rw [framingOf_shape hinv]
      rw [hinv.code] at hcl
      -- with a Transfer-Encoding (HTTP/1.1 only), a Content-Length or a code other than -1 (`identity`) sets close
      have hamb (x : Bytes) (ht : t = some x) : (c.isSome = true ∨ st.contentLength ≠ -1) → close = true := by
        intro h2
        have : (st.teSeen && (st.clSeen || st.contentLength != -1)) = true := by
          rw [hinv.teSeen, hinv.clSeen, ht]
          rcases h2 with h2 | h2 <;> simp [h2]
        rw [← hclose, (hinv.teVal x ht).1, if_pos this]
        rfl
      cases t with
      | none =>
        cases c with
        | none => exact hcl.symm
        | some v => exact ⟨.inl hcl.symm, nofun⟩
      | some x =>
        specialize hamb x rfl
        rw [framingShape]
        by_cases hch : lowerB x = chunkedB
        · rw [if_pos hch]
          exact ⟨by rw [← hcl]; simp [clCode, hch], fun h => hamb (.inl h)⟩
        · rw [if_neg hch]
          have hcode : clCode c (some x) = c.elim (-2 : Int) fun v => (natOfDigits v : Int) := by
            cases c <;> simp [clCode, hch]
          rw [hcode] at hcl
          cases c with
          | none => exact ⟨.inr ⟨rfl, hcl.symm⟩, fun _ => hamb (.inr (by rw [hinv.code, hcode]; decide))⟩
          | some v => exact ⟨.inl hcl.symm, fun _ => hamb (.inl rfl)⟩

/-- RFC-invalid framing (TE on HTTP/1.0, unknown final coding, duplicate or malformed Content-Length, ...) is never accepted -/
theorem invalid_framing_rejected (noH11 : Bool) (fs : List (Bytes × Bytes)) (hs : Scanned fs)
    (hinv : framingOf (!noH11) fs = .invalid) : parseDecision noH11 fs = .reject := by
  cases h : parseDecision noH11 fs with
  | reject => rfl
  | ok cl close =>
    have := framing_agrees_partial noH11 fs hs cl close h
    rw [hinv] at this
    exact absurd this id

/-- ambiguous framing (CL together with TE, a lone `identity`) always carries connectionClose -/
theorem ambiguous_forces_close (noH11 : Bool) (fs : List (Bytes × Bytes)) (hs : Scanned fs) (cl : Int) (close : Bool)
    (h : parseDecision noH11 fs = .ok cl close)
    (hamb : (∃ n, framingOf (!noH11) fs = .length n true) ∨ framingOf (!noH11) fs = .chunked true) :
    close = true := by
  have := framing_agrees_partial noH11 fs hs cl close h
  rcases hamb with ⟨n, hn⟩ | hc
  · rw [hn] at this; exact this.2 rfl
  · rw [hc] at this; exact this.2 rfl

example : parseDecision false [(ofString "Host", ofString "h"), (ofString "Content-Length", ofString "3"),
    (ofString "Transfer-Encoding", ofString "chunked")] = .ok (-1) true := by
  simp only [ofString_eq]
  decide +kernel
example : parseDecision false [(ofString "Host", ofString "h"), (ofString "Transfer-Encoding", ofString "Identity")] =
    .ok (-2) true := by
  simp only [ofString_eq]
  decide +kernel
example : parseDecision false [(ofString "Host", ofString "h"), (ofString "content-length", ofString "12")] =
    .ok 12 false := by
  simp only [ofString_eq]
  decide +kernel
example : parseDecision true [(ofString "Transfer-Encoding", ofString "chunked")] = .reject := by
  simp only [ofString_eq]
  decide +kernel
example : framingOf true [(ofString "Content-Length", ofString "3"), (ofString "Transfer-Encoding", ofString "chunked")] =
    .chunked true := by
  simp only [ofString_eq]
  decide +kernel

/-! ### the serve loop: nothing is dispatched after a request that asked for close -/

/-- per-request outcome as the loop of serveConnCounted sees it -/
structure ReqOutcome where
  parsedOk : Bool      -- head + body read without error
  close : Bool         -- connectionClose after this request (request header, config, handler, limits)

/-- dispatched request indices: the loop stops at the first parse error or close -/
def dispatched : Nat → List ReqOutcome → List Nat
  | _, [] => []
  | i, r :: rest => if !r.parsedOk then [] else if r.close then [i] else i :: dispatched (i + 1) rest

theorem no_dispatch_after_close (rs : List ReqOutcome) (i k : Nat) (hk : k < rs.length)
    (hclose : (rs.get ⟨k, hk⟩).close = true) : ∀ j ∈ dispatched i rs, j ≤ i + k := by
  fun_induction dispatched i rs generalizing k with
  | case1 | case2 => exact fun _ h => nomatch h
  | case3 i => exact fun j hj => List.mem_singleton.1 hj ▸ Nat.le_add_right ..
  | case4 i r rest _ hc ih =>
    intro j hj
    cases k with
    | zero => exact absurd hclose hc
    | succ k =>
      rcases List.mem_cons.1 hj with rfl | h
      · exact Nat.le_add_right ..
      · exact Nat.le_trans (ih k (Nat.lt_of_succ_lt_succ hk) hclose j h) (by omega)

/-! ### the byte-level monitor itself: `Spec.Rfc.frame`

Three facts the monitor relies on, for every input. -/

/-- more fuel never changes what the reference framer reports: `input.length + 1` is enough for every input, so
    `.incomplete` always means "the stream ends inside a message", never "out of fuel" -/
theorem reference_fuel_adequate (input : Bytes) (k : Nat) :
    frameLoop (input.length + 1 + k) 0 input [] = frame input :=
  Proofs.RfcProgress.frameLoop_fuel _ _ 0 input [] (by omega) (by omega)

/-- the end offsets of the reported messages are strictly increasing and lie inside the stream -/
theorem reference_messages_advance (input : Bytes) :
    ((frame input).1.map (·.endOff)).Pairwise (· < ·) ∧ ∀ m ∈ (frame input).1, m.endOff ≤ input.length := by
  have := Proofs.RfcProgress.frameLoop_offsets (input.length + 1) 0 input [] input.length (by omega)
    (by intro m hm; cases hm) (by simp)
  simpa [frame] using this

theorem reference_message_consumes (off : Nat) (input : Bytes) (m : Msg) (rest : Bytes)
    (h : frameOne off input = .msg m rest) : rest.length < input.length ∧ m.endOff = off + (input.length - rest.length) :=
  Proofs.RfcProgress.frameOne_progress off input m rest h

example : ((frame (ofString "GET /a HTTP/1.1\r\nHost: h\r\n\r\nPOST /b HTTP/1.1\r\nHost: h\r\nContent-Length: 2\r\n\r\nhiGET")).1.map
    (·.endOff)) = [28, 78] := by
  simp only [ofString_eq]
  decide +kernel

end Fh.Props.C01

/-! ### what the theorems of this file rest on -/
#print axioms Fh.Props.C01.framing_agrees_partial
#print axioms Fh.Props.C01.invalid_framing_rejected
#print axioms Fh.Props.C01.ambiguous_forces_close
#print axioms Fh.Props.C01.no_dispatch_after_close
#print axioms Fh.Props.C01.reference_fuel_adequate
#print axioms Fh.Props.C01.reference_messages_advance
#print axioms Fh.Props.C01.reference_message_consumes
