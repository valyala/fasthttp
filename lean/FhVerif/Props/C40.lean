/-
C40 — LBClient routes to the least-loaded client and penalties stay bounded.
Everything under `Gen.` is regenerated from lbclient.go on every run.

The theorems quantify over ARBITRARY event lists of the transition system `Model.LB.step`, i.e. over every
interleaving of the atomic steps of any number of concurrent callers (AddUint32, test+arm, undo, timer firing,
AddClient/RemoveClients, pending changes, clock ticks).  The only hypothesis on the run is `BoundedRun`: fewer than
2^32 - maxPenalty - 1 goroutines are simultaneously between the AddUint32 and the test inside `incPenalty` of one
client (otherwise the uint32 counter itself would wrap).
-/
import FhVerif.Proofs.LB
import FhVerif.Gen.LBGuard

namespace Fh.Props.C40
open Fh Fh.Model.LB Fh.Proofs.LB

theorem maxPenalty_eq_300 : Gen.maxPenalty = 300 := by decide
theorem penaltyDuration_eq_3s : Gen.penaltyDurationNs = 3 * 1000000000 := by decide

/-- Routing: the client `get` returns has the minimal `pending + penalty`; among equally loaded clients it has the
    fewest completed requests; and it is the FIRST such client (every earlier one is strictly worse). -/
theorem chosen_is_minimal (cs : List Client) (i : Nat) (h : Fh.Model.LB.get cs = some i) :
    ∃ ci, cs[i]? = some ci ∧ ∀ j cj, cs[j]? = some cj →
      (ci.load < cj.load ∨ (ci.load = cj.load ∧ ci.total ≤ cj.total)) ∧
      (j < i → (ci.load < cj.load ∨ (ci.load = cj.load ∧ ci.total < cj.total))) :=
  get_best cs i h

/-- In the model `get` (and each of AddClient / RemoveClients) is ONE atomic step.  Pinned to the source: `get` takes `cc.mu.RLock()` directly followed by the deferred `RUnlock`
    and contains no other unlock call — the lock is held from reading `cc.cs` to the end of the scan — and the two
    membership operations hold the write lock in the same way.  Hence a call that overlaps a membership change is
    ordered entirely before or entirely after it. -/
theorem get_is_one_atomic_step :
    Gen.lbLocking = [("get", "RLock", true, 0), ("AddClient", "Lock", true, 0), ("RemoveClients", "Lock", true, 0)] :=
  rfl

/-- the client a call is routed to is the first least-loaded client among the members at that (atomic) moment -/
theorem routed_client_is_minimal_member (s : State) (i : Nat) (h : (route s).2 = .routed i) :
    ∃ ci, (route s).1.cs[i]? = some ci ∧ ∀ j cj, (route s).1.cs[j]? = some cj →
      (ci.load < cj.load ∨ (ci.load = cj.load ∧ ci.total ≤ cj.total)) ∧
      (j < i → (ci.load < cj.load ∨ (ci.load = cj.load ∧ ci.total < cj.total))) := by
  rcases route_spec s with ⟨_, _, hr⟩ | ⟨_, hr⟩ | ⟨k, hg, hr⟩ <;> rw [hr] at h <;> cases h
  exact chosen_is_minimal _ i hg

theorem get_some_iff (cs : List Client) : (∃ i, Fh.Model.LB.get cs = some i) ↔ cs ≠ [] := by
  cases cs <;> simp [Fh.Model.LB.get]

/-- Accounting invariant (for every interleaving): penalty = armed timers + callers inside incPenalty,
    and armed timers (plus callers that are about to arm one) never exceed maxPenalty. -/
theorem penalty_accounting (cfg : List (Nat × Int)) (evs : List Ev) (s : State)
    (hb : BoundedRun (State.start cfg) evs) (hr : run (State.start cfg) evs = some s) :
    ∀ c ∈ s.cs, c.penalty = c.timers.length + c.inflightOk + c.inflightOver ∧
      c.timers.length + c.inflightOk ≤ Gen.maxPenalty := by
  intro c hc
  obtain ⟨h1, h2, _⟩ := (inv_run (inv_start cfg) hb hr).1 c hc
  exact ⟨h1, h2⟩

/-- Once concurrent calls settle (no caller is inside incPenalty on that client), no client carries more than
    maxPenalty (= 300) outstanding penalties, and each of them is backed by an armed timer. -/
theorem settled_penalty_le_max (cfg : List (Nat × Int)) (evs : List Ev) (s : State)
    (hb : BoundedRun (State.start cfg) evs) (hr : run (State.start cfg) evs = some s) :
    ∀ c ∈ s.cs, c.inflightOk = 0 → c.inflightOver = 0 →
      c.penalty ≤ Gen.maxPenalty ∧ c.penalty = c.timers.length := by
  intro c hc h1 h2
  obtain ⟨h3, h4⟩ := penalty_accounting cfg evs s hb hr c hc
  omega

/-- The uint32 counter never wraps: it stays below maxPenalty + (callers inside incPenalty) + 1 ≤ 2^32. -/
theorem no_uint32_wrap (cfg : List (Nat × Int)) (evs : List Ev) (s : State)
    (hb : BoundedRun (State.start cfg) evs) (hr : run (State.start cfg) evs = some s) :
    ∀ c ∈ s.cs, c.penalty ≤ Gen.maxPenalty + c.inflightOver := by
  intro c hc
  obtain ⟨h3, h4⟩ := penalty_accounting cfg evs s hb hr c hc
  omega

/-- Every armed timer is due at most penaltyDuration (3 s) after the client's last penalised failure; so once
    that much time has passed every remaining timer is overdue (enabled — only scheduler latency delays it), and
    when the last one has fired (and no caller is inside incPenalty) the penalty is exactly zero. -/
theorem penalty_zero_after_last_timer (cfg : List (Nat × Int)) (evs : List Ev) (s : State)
    (hb : BoundedRun (State.start cfg) evs) (hr : run (State.start cfg) evs = some s) :
    ∀ c ∈ s.cs, c.inflightOk = 0 → c.inflightOver = 0 →
      (s.now ≥ c.lastFail + Gen.penaltyDurationNs → ∀ d ∈ c.timers, d ≤ s.now) ∧
      (c.timers = [] → c.penalty = 0) := by
  intro c hc h1 h2
  obtain ⟨h3, _, _, h6⟩ := (inv_run (inv_start cfg) hb hr).1 c hc
  refine ⟨fun hnow d hd => ?_, fun ht => ?_⟩
  · have := h6 d hd; omega
  · rw [ht] at h3; simp only [List.length_nil] at h3; omega

/-- The pairing of decrements with successful increments, pinned to the source: the only place that hands `decPenalty` to a timer is `lbClient.DoDeadline`, inside the THEN branch of an `if`
    whose condition has `c.incPenalty()` as a positive conjunct; `incPenalty()` is called nowhere else and its result is
    never discarded; the only direct `decPenalty()` call is the undo inside `incPenalty`, which then returns false.
    This is why the model has `failArm` (arm a timer) only for callers whose increment stood, and no step that arms a
    timer after an undone increment. -/
theorem decrement_scheduled_only_after_successful_increment :
    Gen.lbScheduleSites = [("DoDeadline", true)] ∧ Gen.lbIncPenaltyCalls = [("DoDeadline", true)] ∧
    Gen.lbDecDirectCalls = ["incPenalty"] ∧ Gen.lbUndoReturnsFalse = true := ⟨rfl, rfl, rfl, rfl⟩

/-- No underflow: whenever a timer fires — in any reachable state of any interleaving — the uint32 penalty is at least
    1 and goes down by exactly one (it never wraps to 2^32-1); pending decrements (armed timers) never exceed the
    penalty. -/
theorem timer_never_underflows (cfg : List (Nat × Int)) (evs : List Ev) (s : State)
    (hb : BoundedRun (State.start cfg) evs) (hr : run (State.start cfg) evs = some s)
    (i k : Nat) (s' : State) (h : step s (.timer i k) = some s') :
    ∃ c c', s.cs[i]? = some c ∧ s'.cs[i]? = some c' ∧ c.timers.length ≤ c.penalty ∧
      c'.penalty + 1 = c.penalty ∧ c'.timers.length + 1 = c.timers.length := by
  simp only [step] at h
  obtain ⟨c, c', hc, hf, rfl⟩ := updClient_some.mp h
  have hmem : c ∈ s.cs := List.mem_of_getElem? hc
  obtain ⟨h1, h2⟩ := penalty_accounting cfg evs s hb hr c hmem
  have hB := (inv_run (inv_start cfg) hb hr).2 c hmem
  have hi : i < s.cs.length := (List.getElem?_eq_some_iff.mp hc).1
  refine ⟨c, c', hc, List.getElem?_set_self hi, by omega, ?_⟩
  split at hf
  · cases hf
  · rename_i due hk
    have hlt : k < c.timers.length := (List.getElem?_eq_some_iff.mp hk).1
    split at hf <;> cases hf
    simp only [decU32_pos (p := c.penalty) (by omega) (by omega), List.length_eraseIdx, hlt, if_true]
    exact ⟨by omega, by omega⟩

/-- Concurrent failures on one client with no timer firing in between, in ANY interleaving of the callers'
    AddUint32 / arm / undo steps: once they have all returned, exactly min(#failures, maxPenalty) of them were
    penalised (armed a timer) and the penalty equals that number.  (This is what the harness' concurrent stress
    observes: `Driver.lbSettled`.) -/
theorem concurrent_failures_settle_at_min (id : Nat) (p : Int) (evs : List Ev) (s : State)
    (ho : OnlyFail0 evs) (hb : BoundedRun (State.start [(id, p)]) (.get :: evs))
    (hr : run (State.start [(id, p)]) (.get :: evs) = some s) :
    ∃ c, s.cs = [c] ∧ (c.inflightOk = 0 → c.inflightOver = 0 →
      c.timers.length = min (countAdds evs) Gen.maxPenalty ∧ c.penalty = min (countAdds evs) Gen.maxPenalty) := by
  have hacc := penalty_accounting _ _ s hb hr
  -- the `.get` initialises the one client: the rest of the run starts from it, fresh
  obtain ⟨c, hc, j2, _⟩ := jinv_run evs ⟨[(id, p)], true, [Client.fresh id p], 0⟩ s (Client.fresh id p) 0 rfl
    (by simp [JInv, Client.fresh]) ho
    (fun c hc => by cases List.mem_singleton.mp hc; exact cinv_fresh _ _ _) hb.2 hr
  refine ⟨c, hc, fun h1 h2 => ?_⟩
  have j1 := (hacc c (by rw [hc]; exact List.mem_singleton_self c)).1
  simp only [Nat.zero_add] at j2
  omega

theorem overdue_timer_fires (s : State) (i k : Nat) (c : Client) (due : Nat)
    (hc : s.cs[i]? = some c) (hk : c.timers[k]? = some due) (hdue : due ≤ s.now) :
    ∃ s', step s (.timer i k) = some s' ∧
      s'.cs[i]? = some { c with timers := c.timers.eraseIdx k, penalty := decU32 c.penalty } := by
  have hi : i < s.cs.length := (List.getElem?_eq_some_iff.mp hc).1
  simp only [step, updClient, hc, hk, hdue, if_true]
  exact ⟨_, rfl, by simp [hi]⟩

/-- With a non-empty configured client list (the documented precondition of LBClient), no call ever panics, in any
    reachable state; and whenever there is no client left (all removed) the call returns ErrNoAvailableClients. -/
theorem no_clients_returns_error (cfg : List (Nat × Int)) (hcfg : cfg ≠ []) (evs : List Ev) (s : State)
    (hr : run (State.start cfg) evs = some s) :
    (route s).2 ≠ .panicEmptyConfig ∧
    ((route s).1.cs = [] → (route s).2 = .errNoClients) ∧
    (∀ i, (route s).2 = .routed i → i < (route s).1.cs.length) := by
  have hcfg' : s.cfg ≠ [] :=
    Iter.inv (P := fun x => x.cfg ≠ []) (fun _ _ _ hp hs => mt (cfg_step hs) hp) hcfg (run_eq_iter _ evs ▸ hr)
  rcases route_spec s with ⟨_, hc, _⟩ | ⟨hg, hr⟩ | ⟨i, hg, hr⟩
  · exact absurd hc hcfg'
  · rw [hr]; exact ⟨nofun, fun _ => rfl, nofun⟩
  · rw [hr]
    refine ⟨nofun, fun hnil => (by rw [hnil] at hg; cases hg), fun j h => ?_⟩
    cases h
    obtain ⟨ci, hci, _⟩ := chosen_is_minimal _ i hg
    exact (List.getElem?_eq_some_iff.mp hci).1

/-- the by-design panic: the first call on an LBClient configured with an empty `Clients` list -/
theorem empty_config_panics (s : State) (h1 : s.inited = false) (h2 : s.cfg = []) :
    (route s).2 = .panicEmptyConfig := by
  simp [route, ensureInit, h1, h2]

private def c3 : List Client :=
  [⟨0, 2, 1, 5, [7], 0, 0, 0⟩, ⟨1, 1, 0, 9, [], 0, 0, 0⟩, ⟨2, 0, 1, 4, [9], 0, 0, 0⟩, ⟨3, 1, 0, 4, [], 0, 0, 0⟩]

/-- loads 3,1,1,1; totals 5,9,4,4 → the first of the two (load 1, total 4) clients -/
example : Fh.Model.LB.get c3 = some 2 := by decide
example : Fh.Model.LB.get [] = none := rfl

/-- 301 unhealthy calls run one after the other: the 301st is undone, penalty settles at 300 -/
private def failSeq : Nat → List Ev
  | 0 => []
  | n + 1 => failSeq n ++ [.failAdd 0, if n < 300 then .failArm 0 else .failUndo 0]

/-- `failSeq` call by call: the examples evaluate along this form, which the kernel builds in linear time (the
    left-nested `++` of the definition takes quadratic time). -/
private theorem failSeq_eq (n : Nat) :
    failSeq n = (List.range n).flatMap fun k => [.failAdd 0, if k < 300 then .failArm 0 else .failUndo 0] := by
  induction n with
  | zero => rfl
  | succ n ih => rw [failSeq, ih, List.range_succ, List.flatMap_append]; rfl

example : ((run (State.start [(7, 0)]) (.get :: failSeq 301)).map fun s => s.cs.map fun c => (c.penalty, c.timers.length, c.total))
    = some [(300, 300, 1)] := by rw [failSeq_eq]; decide +kernel

/-- two callers interleaved at the boundary: both add (300, 301), the second undoes, the first arms -/
example : ((run (State.start [(7, 0)]) (.get :: failSeq 299 ++ [.failAdd 0, .failAdd 0, .failUndo 0, .failArm 0])).map
    fun s => s.cs.map fun c => (c.penalty, c.timers.length, c.inflightOk, c.inflightOver)) = some [(300, 300, 0, 0)] := by
  rw [failSeq_eq]; decide +kernel

example : OnlyFail0 [.failAdd 0, .failAdd 0, .failUndo 0, .failArm 0] ∧
    countAdds [.failAdd 0, .failAdd 0, .failUndo 0, .failArm 0] = 2 := by
  unfold OnlyFail0
  decide

/-- a timer cannot fire before it is due, fires after 3 s, and the penalty is back to zero -/
example : run (State.start [(7, 0)]) [.get, .failAdd 0, .failArm 0, .tick 2999999999, .timer 0 0] = none := by decide +kernel
example : ((run (State.start [(7, 0)]) [.get, .failAdd 0, .failArm 0, .tick 3000000000, .timer 0 0]).map
    fun s => s.cs.map fun c => (c.penalty, c.timers)) = some [(0, [])] := by decide +kernel

/-- all clients removed → ErrNoAvailableClients; empty configuration → the sanity-check panic -/
example : ((run (State.start [(7, 0)]) [.get, .removeClients [7]]).map fun s => (route s).2) = some .errNoClients := by decide
example : (route (State.start [])).2 = .panicEmptyConfig := by decide
example : BoundedRun (State.start [(7, 0)]) (.get :: failSeq 301) := by rw [failSeq_eq]; decide +kernel

end Fh.Props.C40

/-! ### what the theorems of this file rest on -/
#print axioms Fh.Props.C40.maxPenalty_eq_300
#print axioms Fh.Props.C40.penaltyDuration_eq_3s
#print axioms Fh.Props.C40.chosen_is_minimal
#print axioms Fh.Props.C40.get_is_one_atomic_step
#print axioms Fh.Props.C40.routed_client_is_minimal_member
#print axioms Fh.Props.C40.get_some_iff
#print axioms Fh.Props.C40.penalty_accounting
#print axioms Fh.Props.C40.settled_penalty_le_max
#print axioms Fh.Props.C40.no_uint32_wrap
#print axioms Fh.Props.C40.penalty_zero_after_last_timer
#print axioms Fh.Props.C40.decrement_scheduled_only_after_successful_increment
#print axioms Fh.Props.C40.timer_never_underflows
#print axioms Fh.Props.C40.concurrent_failures_settle_at_min
#print axioms Fh.Props.C40.overdue_timer_fires
#print axioms Fh.Props.C40.no_clients_returns_error
#print axioms Fh.Props.C40.empty_config_panics
