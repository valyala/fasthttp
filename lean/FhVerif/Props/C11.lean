/-
C11 — No request observes state left over from an earlier request.
Covered: the pooled request objects (fields the Reset methods leave alone, regenerated), the locals of
serveConnCounted that survive an iteration (Model/LoopLocals.lean), the per-request RequestConfig (Model/ReqConf.lean).
-/
import FhVerif.Proofs.ReqConf
import FhVerif.Model.LoopLocals
import FhVerif.Gen.Resets

namespace Fh.Props.C11
open Fh Fh.Model

/-- regenerated from /repo: the struct fields the reset methods do NOT write — scratch buffers, copy guards and
    configuration, nothing a handler can observe about a request -/
theorem reset_covers_all_request_state :
    Gen.notReset_RequestHeader = ["bufK", "bufV", "noCopy", "secureErrorLogMessage"] ∧
    Gen.notReset_ResponseHeader = ["bufK", "bufV", "noCopy", "secureErrorLogMessage"] ∧
    Gen.notReset_Request = ["keepBodyBuffer", "noCopy", "secureErrorLogMessage", "w"] ∧
    Gen.notReset_Response = ["keepBodyBuffer", "noCopy", "secureErrorLogMessage", "w"] ∧
    Gen.notReset_RequestCtx = ["formValueFunc", "logger", "noCopy", "s", "timeoutCh", "timeoutTimer"] :=
  ⟨rfl, rfl, rfl, rfl, rfl⟩

theorem reset_is_fresh (s : Observable) : s.reset = Observable.fresh := rfl

theorem iter_continues (i : IterIn) (h : (iter {} i).breaks = false) : (iter {} i).locals = {} := by
  unfold iter at h ⊢
  cases he : i.expect <;> simp_all [expectDecision]

/-- every iteration that starts does so with the initial locals -/
theorem locals_fresh_at_every_iteration (is : List IterIn) :
    ∀ (pre post : List IterOut) (o : IterOut), runIters {} is = pre ++ o :: post → post ≠ [] → o.locals = {} := by
  induction is with
  | nil => intro pre post o h; cases pre <;> cases h
  | cons i rest ih =>
    intro pre post o h hpost
    rw [runIters] at h
    split at h
    · -- the loop ends here: this output has no successor
      cases pre with
      | nil => cases h; exact absurd rfl hpost
      | cons p pre' => cases pre' <;> cases h
    · next hb =>
      have hloc := iter_continues i (Bool.eq_false_iff.mpr hb)
      cases pre with
      | nil => cases h; exact hloc
      | cons p pre' => exact ih pre' post o (hloc ▸ (List.cons.inj h).2) hpost

/-- C11 (locals): whether the handler is called for a request depends only on that request's own expectation outcome -/
theorem handler_call_depends_on_own_request (i : IterIn) :
    (iter {} i).handlerCalled = (expectDecision i.expect).1 := by
  unfold iter; cases i.expect <;> simp [expectDecision]

/-- a request whose expectation was rejected is the last one on its connection -/
theorem rejection_ends_connection (l : Locals) (i : IterIn) (h : (iter l i).handlerCalled = false) (hl : l = {}) :
    (iter l i).breaks = true := by
  subst hl
  unfold iter at h ⊢
  cases he : i.expect <;> simp_all [expectDecision]

example : (runIters {} [⟨.noExpect, false, false⟩, ⟨.rejectedByContinueHandler, false, false⟩, ⟨.noExpect, false, false⟩]).length = 2 := by
  decide

section ReqConf
open Fh.Model.ReqConf Fh.Proofs.ReqConf

def RCInv (c : SrvCfg) (v : Vars) : Prop :=
  (c.hasHook = false → v.maxBody = srvMax c ∧ v.writeTimeout = c.writeTimeout) ∧
  v.wdlSet = decide (v.prevWriteTimeout > 0) ∧
  (v.rdl = .request → v.reqRdl = true)

theorem rc_init (c : SrvCfg) : RCInv c (init c) ∧ (init c).rdl ≠ .request :=
  ⟨⟨fun _ => ⟨rfl, rfl⟩, rfl, nofun⟩, nofun⟩

/-- one iteration: the body limit and the write deadline a request gets depend on the server's settings and its own
    RequestConfig (Server.HeaderReceived) only, the read deadline under which the server waits for it was not set by
    another request, and the invariant is re-established -/
theorem rc_iter (c : SrvCfg) (n : Nat) (k : Conf) (v : Vars) (h : RCInv c v) (h1 : n = 1 → v.rdl ≠ .request) :
    RCInv c (iter c n k v).1 ∧ (iter c n k v).2.maxBody = ownMax c k ∧ (iter c n k v).2.wdl = ownWdl c k ∧
    (iter c n k v).2.rdlWaiting ≠ .request := by
  obtain ⟨hA, hB, hC⟩ := h
  have t_rdl := top_rdl c n v hC h1
  obtain ⟨k_mb, k_wt, k_pwt, k_wdl⟩ := upto_hook c n k v hA
  obtain ⟨b_mb, b_wt, b_rdl, b_req, b_wdl, b_inv⟩ := beforeWrite_spec (hook c k (firstByte c n (top c n v)))
    (by rw [k_pwt, k_wdl]; exact hB)
  dsimp only [ReqConf.iter]
  refine ⟨⟨fun hh => ?_, b_inv, ?_⟩, k_mb, ?_, t_rdl⟩
  · rw [b_mb, b_wt, k_mb, k_wt]
    simp [ownMax, hh]
  · rw [b_rdl, b_req]
    exact hook_rdl c k _ (firstByte_rdl c n _ t_rdl)
  · rw [b_wdl, k_wt, ownWdl]
    split
    · next a => exact decide_eq_true a.2
    · rfl

/-- C11 (per-connection decisions): on a connection carrying any sequence of requests with any RequestConfigs, each
    request is read under its own body limit, answered under its own write deadline, and never awaited under a read
    deadline that an earlier request asked for -/
theorem request_config_is_per_request (c : SrvCfg) (ks : List Conf) :
    ∀ (n : Nat) (v : Vars), 1 ≤ n → RCInv c v → (n = 1 → v.rdl ≠ .request) →
      ∀ p ∈ (run c n v ks).zip ks, p.1.maxBody = ownMax c p.2 ∧ p.1.wdl = ownWdl c p.2 ∧ p.1.rdlWaiting ≠ .request := by
  induction ks with
  | nil => intro n v _ _ _ p hp; cases hp
  | cons k rest ih =>
    intro n v hn h h1 p hp
    have hi := rc_iter c n k v h h1
    simp only [run, List.zip_cons_cons, List.mem_cons] at hp
    rcases hp with rfl | hp
    · exact hi.2
    · exact ih (n + 1) (iter c n k v).1 (by omega) hi.1 (by intro h; omega) p hp

/-- the same from the first request of a connection -/
theorem request_config_is_per_request_from_start (c : SrvCfg) (ks : List Conf) :
    ∀ p ∈ (run c 1 (init c) ks).zip ks, p.1.maxBody = ownMax c p.2 ∧ p.1.wdl = ownWdl c p.2 ∧ p.1.rdlWaiting ≠ .request :=
  request_config_is_per_request c ks 1 (init c) (Nat.le_refl 1) (rc_init c).1 (fun _ => (rc_init c).2)

-- request 1 asks for a 16-byte limit, a write timeout and a read timeout; request 2 asks for nothing and gets the
-- server's 4 MiB limit, no write deadline, and is not awaited under request 1's read deadline
example : run ⟨0, 0, 0, 0, true⟩ 1 (init ⟨0, 0, 0, 0, true⟩) [⟨3, 5000, 16⟩, ⟨0, 0, 0⟩] =
    [⟨.none, 16, true⟩, ⟨.none, 4194304, false⟩] := by decide
end ReqConf

end Fh.Props.C11

/-! ### what the theorems of this file rest on -/
#print axioms Fh.Props.C11.reset_covers_all_request_state
#print axioms Fh.Props.C11.reset_is_fresh
#print axioms Fh.Props.C11.iter_continues
#print axioms Fh.Props.C11.locals_fresh_at_every_iteration
#print axioms Fh.Props.C11.handler_call_depends_on_own_request
#print axioms Fh.Props.C11.rejection_ends_connection
#print axioms Fh.Props.C11.rc_init
#print axioms Fh.Props.C11.rc_iter
#print axioms Fh.Props.C11.request_config_is_per_request
#print axioms Fh.Props.C11.request_config_is_per_request_from_start
