/-
`ofString` on a string literal, for test vectors.  `ByteArray.toList` runs an index loop defined by well-founded
recursion, which the kernel can only evaluate by unfolding accessibility proofs, once per byte and again whenever the
list is inspected.  `ofString_eq` replaces it by the array's own list, which is a constructor away.
-/
import FhVerif.Base.Bytes

namespace Fh

theorem toList_loop (bs : ByteArray) (i : Nat) (r : List UInt8) :
    ByteArray.toList.loop bs i r = r.reverse ++ bs.data.toList.drop i := by
  induction h : bs.size - i generalizing i r with
  | zero =>
    have : bs.data.toList.length ≤ i := by rw [Array.length_toList]; exact Nat.le_of_sub_eq_zero h
    rw [ByteArray.toList.loop, if_neg (by omega), List.drop_of_length_le this, List.append_nil]
  | succ n ih =>
    have hs : i < bs.size := Nat.lt_of_sub_eq_succ h
    have hi : i < bs.data.toList.length := by rw [Array.length_toList]; exact hs
    rw [ByteArray.toList.loop, if_pos hs, ih _ _ (by omega), List.drop_eq_getElem_cons hi, List.reverse_cons,
      List.append_assoc]
    exact congrArg (fun x => r.reverse ++ x :: _) ((getElem!_pos bs.data i hs).trans (Array.getElem_toList hs).symm)

theorem ofString_eq (s : String) : ofString s = s.toUTF8.data.toList := by
  rw [ofString, ByteArray.toList, toList_loop]; rfl

end Fh
