/-
Runs of a labelled transition system `step : σ → ε → Option σ` over an event list.  The concurrent models define their
own `run`; where it has this shape the proof file shows `run = iter step` once (`run_eq_iter`) and takes its inductions over
runs from here (`Iter.inv`, `Iter.rel`; `foldl_inv` for total steps).  The second half of the file reads a guarded step or a
chain of `if`s back without unfolding and splitting it (`of_guard`, `of_ite`, `ite_eq_cases`).
-/
namespace Fh

def iter {σ ε : Type} (step : σ → ε → Option σ) : σ → List ε → Option σ
  | s, [] => some s
  | s, e :: es => (step s e).bind fun s' => iter step s' es

namespace Iter
variable {σ ε : Type} {step : σ → ε → Option σ}

@[simp] theorem iter_nil (s : σ) : iter step s [] = some s := rfl

@[simp] theorem iter_cons (s : σ) (e : ε) (es : List ε) :
    iter step s (e :: es) = (step s e).bind fun s' => iter step s' es := rfl

theorem iter_append (s : σ) (es fs : List ε) :
    iter step s (es ++ fs) = (iter step s es).bind fun s' => iter step s' fs := by
  induction es generalizing s with
  | nil => rfl
  | cons e es ih => cases h : step s e <;> simp [h, ih]

theorem iter_snoc {s s' : σ} {es : List ε} (h : iter step s es = some s') (e : ε) :
    iter step s (es ++ [e]) = step s' e := by
  simp [iter_append, h]

/-- a step-closed predicate holds at the end of every run that starts in it -/
theorem inv {P : σ → Prop} (hstep : ∀ s e s', P s → step s e = some s' → P s') :
    ∀ {s s' : σ} {es : List ε}, P s → iter step s es = some s' → P s' := by
  intro s s' es
  induction es generalizing s with
  | nil => intro h e; cases e; exact h
  | cons e es ih =>
    intro h hr
    cases hs : step s e with
    | none => simp [hs] at hr
    | some s₁ => exact ih (hstep s e s₁ h hs) (by simpa [hs] using hr)

/-- a relation between the two ends of a step that is reflexive and transitive holds between the ends of a run -/
theorem rel {R : σ → σ → Prop} (refl : ∀ s, R s s) (trans : ∀ a b c, R a b → R b c → R a c)
    (hstep : ∀ s e s', step s e = some s' → R s s') :
    ∀ {s s' : σ} {es : List ε}, iter step s es = some s' → R s s' := by
  intro s s' es
  induction es generalizing s with
  | nil => intro e; cases e; exact refl _
  | cons e es ih =>
    intro hr
    cases hs : step s e with
    | none => simp [hs] at hr
    | some s₁ => exact trans _ _ _ (hstep s e s₁ hs) (ih (by simpa [hs] using hr))

end Iter

/-- for a system whose steps are total (`foldl`): a step-closed predicate holds at the end of every run that starts in it -/
theorem foldl_inv {σ ε : Type} {f : σ → ε → σ} {P : σ → Prop} (hstep : ∀ s e, P s → P (f s e))
    (es : List ε) {s : σ} (h : P s) : P (es.foldl f s) := by
  induction es generalizing s with
  | nil => exact h
  | cons e es ih => exact ih (hstep s e h)

/-- the same, when the step only has to preserve the predicate for the events that occur -/
theorem foldl_inv_mem {σ ε : Type} {f : σ → ε → σ} {P : σ → Prop} (es : List ε) (hstep : ∀ s, ∀ e ∈ es, P s → P (f s e))
    {s : σ} (h : P s) : P (es.foldl f s) := by
  induction es generalizing s with
  | nil => exact h
  | cons e es ih =>
    exact ih (fun s e' he' => hstep s e' (List.mem_cons_of_mem _ he')) (hstep s e (List.mem_cons_self ..) h)

/-! Reading a successful step back: a `step` that is a guarded `some` is definitionally an `ite`, so these apply to
`h : step s e = some s'` directly, without unfolding `step` and splitting. -/

theorem of_guard {α : Type} {c : Prop} [Decidable c] {x y : α} (h : (if c then some x else none) = some y) : c ∧ x = y := by
  split at h
  · exact ⟨‹c›, Option.some.inj h⟩
  · cases h

theorem of_ite {α : Type} {c : Prop} [Decidable c] {a b : Option α} {y : α} (h : (if c then a else b) = some y) :
    (c ∧ a = some y) ∨ (¬c ∧ b = some y) := by
  split at h
  · exact Or.inl ⟨‹c›, h⟩
  · exact Or.inr ⟨‹¬c›, h⟩

/-! Walking a chain `if c₁ then r₁ else if c₂ then r₂ else …` of which only the results `f a` matter

`split` on such a chain is slow when the results are large records; these lemmas take it apart one link at a time, and
end each branch at `some a` / `none`, `.ok a` / `.error e`. -/

theorem ite_eq_cases {α β : Type} {f : α → β} {p : α → Prop} {c : Prop} [Decidable c] {x y : β}
    (hx : ∀ a, x = f a → p a) (hy : ∀ a, y = f a → p a) : ∀ a, (if c then x else y) = f a → p a := by
  split
  · exact hx
  · exact hy

theorem some_cases {α : Type} {a : α} {p : α → Prop} (h : p a) : ∀ b, some a = some b → p b := by
  rintro _ ⟨⟩
  exact h

theorem none_cases {α : Type} {p : α → Prop} : ∀ b, none = some b → p b := nofun

theorem ok_cases {ε α : Type} {a : α} {p : α → Prop} (h : p a) : ∀ b, (Except.ok a : Except ε α) = .ok b → p b := by
  rintro _ ⟨⟩
  exact h

theorem error_cases {ε α : Type} {e : ε} {p : α → Prop} : ∀ b, (Except.error e : Except ε α) = .ok b → p b := nofun

end Fh
