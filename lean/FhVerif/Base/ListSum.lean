/-
Weighted sums over lists (`wsum f l = Σ f x`): how the sum behaves under `++`, `set`, `map`, and under pointwise
comparison or change of the weight.  The counter invariants (C12 server counters, C13 worker pool, C39 prefork) are
stated as such sums.  At the end, what `List.set` does to a look-up (used with `wsum_set`).  Core Lean only.
-/
namespace Fh

def wsum {α : Type} (f : α → Nat) : List α → Nat
  | [] => 0
  | a :: l => f a + wsum f l

namespace Wsum
variable {α : Type}

@[simp] theorem wsum_nil (f : α → Nat) : wsum f [] = 0 := rfl
@[simp] theorem wsum_cons (f : α → Nat) (a : α) (l : List α) : wsum f (a :: l) = f a + wsum f l := rfl

theorem wsum_append (f : α → Nat) (l₁ l₂ : List α) : wsum f (l₁ ++ l₂) = wsum f l₁ + wsum f l₂ := by
  induction l₁ with
  | nil => exact (Nat.zero_add _).symm
  | cons a l ih => rw [List.cons_append, wsum_cons, wsum_cons, ih, Nat.add_assoc]

theorem wsum_snoc (f : α → Nat) (l : List α) (a : α) : wsum f (l ++ [a]) = wsum f l + f a :=
  wsum_append f l [a]

theorem wsum_set (f : α → Nat) : ∀ (l : List α) (i : Nat) (a b : α), l[i]? = some a →
    wsum f (l.set i b) + f a = wsum f l + f b
  | [], i, a, b, h => by simp at h
  | x :: l, 0, a, b, h => by cases h; simp only [List.set_cons_zero, wsum_cons]; omega
  | x :: l, i + 1, a, b, h => by
    have := wsum_set f l i a b h
    simp only [List.set_cons_succ, wsum_cons]; omega

theorem wsum_set_same (f : α → Nat) (l : List α) (i : Nat) (a b : α) (h : l[i]? = some a) (hf : f b = f a) :
    wsum f (l.set i b) = wsum f l :=
  Nat.add_right_cancel (hf ▸ wsum_set f l i a b h)

theorem wsum_map (f : α → Nat) (g : α → α) (l : List α) : wsum f (l.map g) = wsum (fun x => f (g x)) l := by
  induction l with
  | nil => rfl
  | cons a l ih => rw [List.map_cons, wsum_cons, wsum_cons, ih]

theorem wsum_add (f g : α → Nat) (l : List α) : wsum (fun x => f x + g x) l = wsum f l + wsum g l := by
  induction l with
  | nil => rfl
  | cons a l ih => simp only [wsum_cons, ih]; omega

theorem wsum_le (f g : α → Nat) (l : List α) (h : ∀ x ∈ l, f x ≤ g x) : wsum f l ≤ wsum g l := by
  induction l with
  | nil => exact Nat.le_refl 0
  | cons a l ih => exact Nat.add_le_add (h a List.mem_cons_self) (ih fun x hx => h x (List.mem_cons_of_mem _ hx))

theorem wsum_congr (f g : α → Nat) (l : List α) (h : ∀ x ∈ l, f x = g x) : wsum f l = wsum g l :=
  Nat.le_antisymm (wsum_le f g l fun x hx => Nat.le_of_eq (h x hx))
    (wsum_le g f l fun x hx => Nat.le_of_eq (h x hx).symm)

theorem wsum_eq_zero (f : α → Nat) (l : List α) (h : ∀ x ∈ l, f x = 0) : wsum f l = 0 := by
  induction l with
  | nil => rfl
  | cons a l ih => rw [wsum_cons, h a List.mem_cons_self, ih fun x hx => h x (List.mem_cons_of_mem _ hx)]

theorem wsum_pos_of_mem (f : α → Nat) (l : List α) (a : α) (ha : a ∈ l) : f a ≤ wsum f l := by
  obtain ⟨s, t, rfl⟩ := List.append_of_mem ha
  rw [wsum_append, wsum_cons]; omega

theorem wsum_update {f g : α → Nat} {l : List α} {a : α} (ha : a ∈ l) (hl : l.Nodup)
    (h : ∀ x ∈ l, x ≠ a → f x = g x) : wsum g l + f a = wsum f l + g a := by
  induction l with
  | nil => cases ha
  | cons x l ih =>
    rw [List.nodup_cons] at hl
    simp only [wsum_cons]
    rcases List.mem_cons.mp ha with rfl | hm
    · -- `a` does not occur again, so the weights agree on the tail
      rw [wsum_congr g f l fun y hy => (h y (List.mem_cons_of_mem _ hy) fun e => hl.1 (e ▸ hy)).symm]
      omega
    · have := ih hm hl.2 fun y hy => h y (List.mem_cons_of_mem _ hy)
      have := h x List.mem_cons_self fun e => hl.1 (e ▸ hm)
      omega

theorem mem_of_getElem? {l : List α} {i : Nat} {a : α} (h : l[i]? = some a) : a ∈ l :=
  List.mem_of_getElem? h

theorem getElem?_set_some {l : List α} {i j : Nat} {a b : α} (h : (l.set i a)[j]? = some b) :
    j = i ∧ b = a ∨ j ≠ i ∧ l[j]? = some b := by
  by_cases hij : i = j
  · subst hij
    have hi : i < l.length := by simpa using (List.getElem?_eq_some_iff.mp h).1
    rw [List.getElem?_set_self hi] at h
    exact .inl ⟨rfl, (Option.some.inj h).symm⟩
  · rw [List.getElem?_set_ne hij] at h
    exact .inr ⟨Ne.symm hij, h⟩

end Wsum
end Fh
