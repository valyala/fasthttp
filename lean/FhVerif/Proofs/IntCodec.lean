/-
For C30 (integer codecs): parseUintBuf's digit loop one byte at a time; `WidthOK w`, the arithmetic of an int width
under which the loop is exact (`loop_digits`); writeHexInt read back by readHexLoop.
-/
import FhVerif.Model.IntCodec
import FhVerif.Spec.IntCodec
import FhVerif.Props.C32

namespace Fh.Proofs.IntCodec
open Fh Fh.Model Fh.Spec Fh.Props

/-- `c - 48` in byte arithmetic: above 9 exactly off the digits, and the digit's value on them -/
theorem byte_digit (c : UInt8) :
    ((c - 48).toNat > 9 ↔ ¬ (48 ≤ c.toNat ∧ c.toNat ≤ 57)) ∧ (48 ≤ c.toNat → (c - 48).toNat = c.toNat - 48) := by
  have := c.toNat_lt
  rw [UInt8.toNat_sub]
  simp only [UInt8.toNat_ofNat]
  omega

theorem decFrom_ge (v : Nat) (b : Bytes) : v ≤ decFrom v b := by
  induction b generalizing v with
  | nil => exact Nat.le_refl _
  | cons c rest ih => exact Nat.le_trans (by unfold dstep; omega) (ih (dstep v c))

theorem decFrom_append (v : Nat) (a b : Bytes) : decFrom v (a ++ b) = decFrom (decFrom v a) b := List.foldl_append

/-- the byte AppendUint writes for the digit `d` -/
theorem digit_byte {d : Nat} (h : d < 10) :
    isDigitB (UInt8.ofNat (48 + d)) = true ∧ ∀ v, dstep v (UInt8.ofNat (48 + d)) = 10 * v + d := by
  have : (UInt8.ofNat (48 + d)).toNat = 48 + d := by rw [UInt8.toNat_ofNat']; omega
  rw [isDigitB, decide_eq_true_eq, this]
  exact ⟨by omega, fun v => by rw [dstep, this, Nat.add_sub_cancel_left]⟩

theorem loop_cons (w v i : Nat) (c : UInt8) (rest : Bytes) :
    parseUintLoop w v i (c :: rest) =
      if isDigitB c then
        if i ≥ Gen.maxSafeIntDigits w ∧ (v > Gen.maxIntDiv10 w ∨ dstep v c % 2 ^ w ≥ 2 ^ (w - 1))
        then ⟨-1, i, some .tooLong⟩ else parseUintLoop w (dstep v c % 2 ^ w) (i + 1) rest
      else if i = 0 then ⟨-1, i, some .firstChar⟩ else ⟨toSigned w v, i, none⟩ := by
  rw [parseUintLoop, isDigitB]
  by_cases hc : 48 ≤ c.toNat ∧ c.toNat ≤ 57
  · rw [decide_eq_true hc, if_pos rfl, if_neg (mt (byte_digit c).1.1 (not_not_intro hc)), (byte_digit c).2 hc.1]; rfl
  · rw [decide_eq_false hc, if_neg Bool.false_ne_true, if_pos ((byte_digit c).1.2 hc)]

theorem loop_n (w : Nat) (rest : Bytes) : ∀ v i,
    (parseUintLoop w v i rest).n ≤ i + rest.length ∧
    (rest.all isDigitB = false → (parseUintLoop w v i rest).n < i + rest.length) := by
  induction rest with
  | nil => intro v i; exact ⟨Nat.le_refl _, fun h => nomatch h⟩
  | cons c rest ih =>
    intro v i
    -- wherever the loop stops at this byte it reports `i`
    have stop (p : Prop) : i ≤ i + (rest.length + 1) ∧ (p → i < i + (rest.length + 1)) := ⟨by omega, fun _ => by omega⟩
    rw [loop_cons, List.length_cons, List.all_cons]
    cases isDigitB c
    · rw [if_neg Bool.false_ne_true]; split <;> exact stop _
    · rw [if_pos rfl, Bool.true_and]
      split
      · exact stop _
      · have := ih (dstep v c % 2 ^ w) (i + 1)
        exact ⟨by omega, fun h => by have := this.2 h; omega⟩

theorem loop_n_le (w : Nat) (rest : Bytes) : ∀ v i, (parseUintLoop w v i rest).n ≤ i + rest.length :=
  fun v i => (loop_n w rest v i).1

theorem parseUintBuf_ne_nil (w : Nat) {b : Bytes} (hne : b ≠ []) : parseUintBuf w b = parseUintLoop w 0 0 b := by
  cases b with
  | nil => exact absurd rfl hne
  | cons _ _ => rfl

/-- what `loop_digits` needs of an int width -/
structure WidthOK (w : Nat) : Prop where
  safe_pow : 10 ^ Gen.maxSafeIntDigits w ≤ maxInt w + 1
  guard : ∀ v k, v ≤ maxInt w → k ≤ 9 →
    ((v > Gen.maxIntDiv10 w ∨ (10 * v + k) % 2 ^ w ≥ 2 ^ (w - 1)) ↔ 10 * v + k > maxInt w)
  nowrap : ∀ x, x ≤ maxInt w → x % 2 ^ w = x
  signed : ∀ x, x ≤ maxInt w → toSigned w x = (x : Int)

/-- The overflow test of parseUintBuf, for an accumulator that wraps at `2 * P`: once `v` is above
    `maxInt / 10` the next digit overflows; up to there `10 * v + k` has not wrapped and its sign bit tells. -/
theorem guard_exact {P v k : Nat} (hP : 16 ≤ P) (hk : k ≤ 9) :
    (v > (P - 1) / 10 ∨ (10 * v + k) % (2 * P) ≥ P) ↔ 10 * v + k > P - 1 := by
  by_cases hv : v ≤ (P - 1) / 10
  · rw [Nat.mod_eq_of_lt (by omega)]; omega
  · omega

/-- Any width will do at which the digits taken without the overflow test cannot overflow. -/
theorem WidthOK.of_safe {w : Nat} (hw : 5 ≤ w) (hs : 10 ^ Gen.maxSafeIntDigits w ≤ 2 ^ (w - 1)) : WidthOK w := by
  have h2 : 2 ^ w = 2 * 2 ^ (w - 1) := by rw [← Nat.pow_succ', Nat.succ_eq_add_one, Nat.sub_add_cancel (by omega)]
  have h16 : 2 ^ 4 ≤ 2 ^ (w - 1) := Nat.pow_le_pow_right (by decide) (by omega)
  constructor <;> simp only [maxInt, Gen.maxIntDiv10, h2]
  · omega
  · exact fun v k _ hk => guard_exact h16 hk
  · exact fun x hx => Nat.mod_eq_of_lt (by omega)
  · exact fun x hx => if_pos (by omega)

theorem widthOK64 : WidthOK 64 := .of_safe (by decide) (by decide)
theorem widthOK32 : WidthOK 32 := .of_safe (by decide) (by decide)

theorem loop_digits (w : Nat) (hw : WidthOK w) (rest : Bytes) :
    ∀ v i, v ≤ maxInt w → v < 10 ^ i → rest.all isDigitB = true →
      (decFrom v rest ≤ maxInt w →
        parseUintLoop w v i rest = ⟨(decFrom v rest : Int), i + rest.length, none⟩) ∧
      (decFrom v rest > maxInt w → (parseUintLoop w v i rest).err = some .tooLong) := by
  induction rest with
  | nil =>
    intro v i hv _ _
    exact ⟨fun _ => by rw [parseUintLoop, hw.signed v hv]; rfl, fun h => absurd h (Nat.not_lt.2 hv)⟩
  | cons c rest ih =>
    intro v i hv hpow hall
    rw [List.all_cons, Bool.and_eq_true] at hall
    rw [loop_cons, hall.1, if_pos rfl]
    obtain ⟨k, hk, hd⟩ : ∃ k, k ≤ 9 ∧ dstep v c = 10 * v + k :=
      ⟨c.toNat - 48, by have := hall.1; simp only [isDigitB, decide_eq_true_eq] at this; omega, rfl⟩
    rw [show decFrom v (c :: rest) = decFrom (dstep v c) rest from rfl, hd]
    by_cases hfit : 10 * v + k ≤ maxInt w
    · -- the new accumulator fits: the guard is silent, nothing wraps, and the rest of the loop decides
      rw [if_neg (fun h => absurd ((hw.guard v k hv hk).1 h.2) (Nat.not_lt.2 hfit)), hw.nowrap _ hfit,
        List.length_cons, ← Nat.add_assoc, Nat.add_right_comm]
      exact ih (10 * v + k) (i + 1) hfit (by rw [Nat.pow_succ]; omega) hall.2
    · -- it does not fit: `v` has `i` digits, so at least maxSafeIntDigits have been read, the guard is consulted, and fires
      have hi : i ≥ Gen.maxSafeIntDigits w := Nat.le_of_not_lt fun hlt => by
        have h2 : 10 ^ (i + 1) ≤ 10 ^ Gen.maxSafeIntDigits w := Nat.pow_le_pow_right (by decide) hlt
        have h3 := hw.safe_pow
        rw [Nat.pow_succ] at h2
        omega
      rw [if_pos ⟨hi, (hw.guard v k hv hk).2 (by omega)⟩]
      exact ⟨fun h => absurd (Nat.le_trans (decFrom_ge _ rest) h) hfit, fun _ => rfl⟩

theorem hexVal_le (n : Nat) : Spec.hexVal n ≤ 16 := by
  simp only [Spec.hexVal, Spec.isDigit, Bool.and_eq_true, decide_eq_true_eq]
  split; · omega
  split; · omega
  split <;> omega

theorem hex2int_le (c : UInt8) : (hex2int c).toNat ≤ 16 := C32.hex2int_eq c ▸ hexVal_le _

theorem hex2int_lowerHexDigit : ∀ {d : Nat}, d < 16 → (hex2int (lowerHexDigit d)).toNat = d := by
  simp only [C32.hex2int_eq]; decide

theorem readHex_digit (m acc i : Nat) {d : Nat} (rest : Bytes) (hd : d < 16) (hi : i < m) :
    readHexLoop m acc i (lowerHexDigit d :: rest) = readHexLoop m (acc * 16 + d) (i + 1) rest := by
  simp only [readHexLoop, hex2int_lowerHexDigit hd, if_neg (Nat.ne_of_lt hd), if_neg (Nat.not_le.2 hi)]

theorem readHex_write (m n : Nat) : ∀ acc i rest, i + (writeHexInt n).length ≤ m →
    readHexLoop m acc i (writeHexInt n ++ rest) =
      readHexLoop m (acc * 16 ^ (writeHexInt n).length + n) (i + (writeHexInt n).length) rest := by
  induction n using writeHexInt.induct with
  | case1 n h =>
    intro acc i rest hlen
    rw [writeHexInt, dif_pos h] at hlen ⊢
    rw [List.singleton_append, readHex_digit m acc i rest h hlen]; rfl
  | case2 n h ih =>
    intro acc i rest hlen
    rw [writeHexInt, dif_neg h] at hlen ⊢
    rw [List.length_append, List.length_singleton] at hlen ⊢
    rw [List.append_assoc, ih acc i _ (by omega), List.singleton_append,
      readHex_digit _ _ _ rest (Nat.mod_lt _ (by decide)) (by omega), Nat.pow_succ, Nat.add_mul, Nat.mul_assoc,
      Nat.add_assoc, Nat.add_assoc, Nat.div_add_mod' n 16]

theorem writeHex_length (n : Nat) : ∀ m, 1 ≤ m → n < 16 ^ m → (writeHexInt n).length ≤ m := by
  induction n using writeHexInt.induct with
  | case1 n h => intro m hm _; rw [writeHexInt, dif_pos h]; exact hm
  | case2 n h ih =>
    intro m hm hn
    rw [writeHexInt, dif_neg h, List.length_append, List.length_singleton]
    obtain ⟨m, rfl⟩ : ∃ m', m = m' + 1 := ⟨m - 1, by omega⟩
    rw [Nat.pow_succ] at hn
    have hm' : 1 ≤ m := Nat.pos_of_ne_zero fun h0 => by rw [h0, Nat.pow_zero] at hn; omega
    exact Nat.succ_le_succ (ih m hm' (Nat.div_lt_of_lt_mul (by rwa [Nat.mul_comm])))

theorem readHex_too_long (m : Nat) (ds : Bytes) : ∀ acc i rest,
    (∀ c ∈ ds, (hex2int c).toNat ≠ 16) → i ≤ m → i + ds.length > m →
    readHexLoop m acc i (ds ++ rest) = .error .tooLarge := by
  induction ds with
  | nil => intro acc i rest _ hi h; exact absurd hi (Nat.not_le.2 h)
  | cons c ds ih =>
    intro acc i rest hh hi hlen
    rw [List.forall_mem_cons] at hh
    rw [List.cons_append, readHexLoop]
    simp only [if_neg hh.1]
    by_cases him : i ≥ m
    · exact if_pos him
    · rw [if_neg him]
      exact ih _ (i + 1) rest hh.2 (by omega) (by rw [List.length_cons] at hlen; omega)

end Fh.Proofs.IntCodec
