/-
For C23: the ".." test on concatenations, the strippers never panic on a normalised path, `pathToFilePath` and
the name constructions of fs.go (compressed suffix, index file, directory of the compressed copy) keep a name of
the shape  root  or  root "/" clean.
-/
import FhVerif.Model.FsPath
import FhVerif.Props.C26

namespace Fh.Proofs.FsPath
open Fh Fh.Model Fh.Spec Fh.Proofs.NormPath

theorem dirOf_spec (rel : Bytes) (h : 47 ∈ rel) : ∃ b, rel = dirOf rel ++ 47 :: b ∧ 47 ∉ b := by
  induction rel with
  | nil => exact absurd h List.not_mem_nil
  | cons c t ih =>
    unfold dirOf
    by_cases ht : 47 ∈ t
    · obtain ⟨b, hb, hb'⟩ := ih ht
      exact ⟨b, by rw [if_pos (by simpa using ht), List.cons_append, ← hb], hb'⟩
    · rcases List.mem_cons.1 h with h | h
      · exact ⟨t, by rw [if_neg (by simpa using ht), ← h]; rfl, ht⟩
      · exact absurd h ht

theorem dirOf_append (root rel : Bytes) (h : 47 ∈ rel) : dirOf (root ++ rel) = root ++ dirOf rel := by
  induction root with
  | nil => rfl
  | cons c t ih =>
    have : (t ++ rel).contains 47 = true := by simp [h]
    rw [List.cons_append, dirOf, if_pos this, ih]
    rfl

theorem hasDotDot_append_slash (a b : Bytes) :
    hasDotDot (a ++ 47 :: b) = (hasDotDot a || hasDotDot b) := by
  simp [hasDotDot, splitSlash_append_slash, List.any_append]

theorem hasDotDot_nosep (x : Bytes) (h : 47 ∉ x) : hasDotDot x = isDD x := by
  simp [hasDotDot, splitSlash_nosep x h]

theorem hasDotDot_nil : hasDotDot [] = false := rfl

theorem hasDotDot_cons_slash (t : Bytes) : hasDotDot (47 :: t) = hasDotDot t :=
  hasDotDot_append_slash [] t

/-- appending slash-free bytes (≥ 3 of them) to the last segment cannot create a ".." segment -/
theorem hasDotDot_append_suffix (r x : Bytes) (hx : 47 ∉ x) (hl : 3 ≤ x.length)
    (h : hasDotDot r = false) : hasDotDot (r ++ x) = false := by
  have hlong : ∀ b : Bytes, 47 ∉ b → hasDotDot (b ++ x) = false := by
    intro b hb
    rw [hasDotDot_nosep _ (by simp [hb, hx])]
    apply Bool.eq_false_iff.2
    intro hd
    have := congrArg List.length (eq_of_beq hd)
    simp at this
    omega
  by_cases hr : 47 ∈ r
  · obtain ⟨b, hb, hb'⟩ := dirOf_spec r hr
    rw [hb, hasDotDot_append_slash, Bool.or_eq_false_iff] at h
    rw [hb, List.append_assoc, List.cons_append, hasDotDot_append_slash, h.1, hlong b hb']
    rfl
  · exact hlong r hr

theorem hasDotDot_unsegs (l : List Seg) (hns : ∀ x ∈ l, 47 ∉ x) (hdd : ∀ x ∈ l, x ≠ dotdot) :
    hasDotDot (unsegs l) = false := by
  cases l with
  | nil => rfl
  | cons s t =>
    rw [List.forall_mem_cons] at hns
    rw [unsegs_cons, hasDotDot_cons_slash, hasDotDot, splitSlash_unsegs s t hns.1 hns.2, List.any_eq_false]
    exact fun x hx => by simpa [isDD, dotdot] using hdd x hx

/-- ctx.Path() never has a ".." segment (from C26: it is the RFC 3986 remove_dot_segments result) -/
theorem hasDotDot_normalizePath (src : Bytes) : hasDotDot (normalizePath src) = false := by
  rw [Fh.Props.C26.normalize_eq_rfc]
  exact hasDotDot_unsegs _ (rds_noslash _ (segs_noslash _)) fun x hx => (Fh.Props.C26.rds_no_dot _ [] (by simp) x hx).2

def SlashOrEmpty (p : Bytes) : Prop := p = [] ∨ ∃ t, p = 47 :: t

theorem dropToSlash_some (t r : Bytes) (h : dropToSlash t = some r) : ∃ pre u, r = 47 :: u ∧ t = pre ++ r := by
  induction t with
  | nil => cases h
  | cons c u ih =>
    unfold dropToSlash at h
    split at h
    · rename_i hc
      cases h
      exact ⟨[], u, by rw [eq_of_beq hc], rfl⟩
    · obtain ⟨pre, u', h1, h2⟩ := ih h
      exact ⟨c :: pre, u', h1, by rw [h2]; rfl⟩

/-- stripLeadingSlashes never panics on a path that is empty or starts with '/', and its result is a suffix
    of the input that again is empty or starts with '/' -/
theorem strip_ok (n : Nat) : ∀ p : Bytes, SlashOrEmpty p →
    ∃ q pre, stripLeadingSlashes n p = some q ∧ SlashOrEmpty q ∧ p = pre ++ q := by
  induction n with
  | zero => intro p hp; exact ⟨p, [], rfl, hp, rfl⟩
  | succ n ih =>
    intro p hp
    rcases hp with rfl | ⟨t, rfl⟩
    · exact ⟨[], [], rfl, Or.inl rfl, rfl⟩
    · rw [stripLeadingSlashes, if_neg (by decide)]
      cases hd : dropToSlash t with
      | none => exact ⟨[], 47 :: t, rfl, Or.inl rfl, (List.append_nil _).symm⟩
      | some r =>
        obtain ⟨pre, u, hr, ht⟩ := dropToSlash_some t r hd
        obtain ⟨q, pre', h1, h2, h3⟩ := ih r (Or.inr ⟨u, hr⟩)
        exact ⟨q, 47 :: pre ++ pre', h1, h2, by rw [ht, h3]; simp⟩

theorem hasDotDot_suffix_of_slash (pre q : Bytes) (hq : SlashOrEmpty q) (h : hasDotDot (pre ++ q) = false) :
    hasDotDot q = false := by
  rcases hq with rfl | ⟨t, rfl⟩
  · rfl
  · rw [hasDotDot_append_slash, Bool.or_eq_false_iff] at h
    rw [hasDotDot_cons_slash]
    exact h.2

structure GoodName (ix : Bytes) : Prop where
  nodd : hasDotDot ix = false
  nonul : 0 ∉ ix

structure GoodSuffix (x : Bytes) : Prop where
  noslash : 47 ∉ x
  nonul : 0 ∉ x
  len : 3 ≤ x.length

/-- a relative part that keeps a name lexically below the directory it is appended to -/
structure RelOK (rel : Bytes) : Prop where
  lead : rel = [] ∨ ∃ t, rel = 47 :: t
  nodd : hasDotDot rel = false
  nonul : 0 ∉ rel

theorem goodName_nil : GoodName [] := ⟨rfl, List.not_mem_nil⟩

theorem goodName_join (a b : Bytes) : GoodName (a ++ 47 :: b) ↔ GoodName a ∧ GoodName b := by
  constructor
  · intro ⟨h1, h2⟩
    rw [hasDotDot_append_slash, Bool.or_eq_false_iff] at h1
    rw [List.mem_append, List.mem_cons, not_or, not_or] at h2
    exact ⟨⟨h1.1, h2.1⟩, ⟨h1.2, h2.2.2⟩⟩
  · intro ⟨⟨h1, h2⟩, ⟨h3, h4⟩⟩
    refine ⟨by rw [hasDotDot_append_slash, h1, h3]; rfl, ?_⟩
    rw [List.mem_append, List.mem_cons, not_or, not_or]
    exact ⟨h2, by decide, h4⟩

theorem goodName_suffix (r x : Bytes) (h : GoodName r) (hx : GoodSuffix x) : GoodName (r ++ x) :=
  ⟨hasDotDot_append_suffix r x hx.noslash hx.len h.nodd, by
    rw [List.mem_append, not_or]; exact ⟨h.nonul, hx.nonul⟩⟩

theorem goodSuffix_tmp (x : Bytes) (hx : GoodSuffix x) : GoodSuffix (x ++ tmpMark) := by
  refine ⟨?_, ?_, by simp [tmpMark]⟩
  · rw [List.mem_append, not_or]; exact ⟨hx.noslash, by decide⟩
  · rw [List.mem_append, not_or]; exact ⟨hx.nonul, by decide⟩

/-- the names the handler builds below `root`: the root itself, or root "/" q with q clean; for an fs.FS with root
    "" or "." (`bare`) also q alone -/
inductive Shape (bare : Prop) (root : Bytes) : Bytes → Prop where
  | root : Shape bare root root
  | bare (q : Bytes) : bare → GoodName q → Shape bare root q
  | below (q : Bytes) : GoodName q → Shape bare root (root ++ 47 :: q)

theorem hasTrailingSlash_eq (path : Bytes) (h : hasTrailingSlash path = true) : path = path.dropLast ++ [47] := by
  obtain ⟨ys, hys⟩ := List.getLast?_eq_some_iff.1 (eq_of_beq h)
  rw [hys, List.dropLast_concat]

/-- on a clean path: the osFS branch (root ≠ "") and the fs.FS branch both give a name of that shape -/
theorem p2f_shape (osfs : Bool) (root path : Bytes) (hpath : GoodName path) (hroot : osfs = true → root ≠ []) :
    Shape (osfs = false ∧ (root = [] ∨ root = dotRoot)) root (pathToFilePath osfs root path) := by
  -- p : the path after the trailing-slash cut
  have hp : GoodName (if hasTrailingSlash path then path.dropLast else path) := by
    split
    · rename_i ht
      have := hpath
      rw [hasTrailingSlash_eq path ht, goodName_join] at this
      exact this.1
    · exact hpath
  unfold pathToFilePath
  generalize (if hasTrailingSlash path then path.dropLast else path) = p at hp
  -- q : p without its leading slash
  obtain ⟨q, hq, hpq⟩ : ∃ q, GoodName q ∧ (p = q ∧ hasLeadingSlash p = false ∨ p = 47 :: q) := by
    cases p with
    | nil => exact ⟨[], hp, Or.inl ⟨rfl, rfl⟩⟩
    | cons c t =>
      by_cases hc : c = 47
      · rw [hc] at hp ⊢
        exact ⟨t, ((goodName_join [] t).1 hp).2, Or.inr rfl⟩
      · exact ⟨c :: t, hp, Or.inl ⟨rfl, by simp [hasLeadingSlash, hc]⟩⟩
  cases osfs with
  | true =>
    have hr : (root != []) = true := by simpa using hroot rfl
    rcases hpq with ⟨rfl, hl⟩ | rfl
    · cases p with
      | nil => simpa [hl] using Shape.root
      | cons c t => simpa [hl, hr] using Shape.below _ hq
    · simpa [hasLeadingSlash] using Shape.below _ hq
  | false =>
    -- both tests for "nothing left" say q = [], and what is cut off the front leaves q
    have hcut : (p == [] || hasLeadingSlash p && p.length == 1) = (q == []) ∧
        (if hasLeadingSlash p then p.drop 1 else p) = q := by
      rcases hpq with ⟨rfl, hl⟩ | rfl
      · simp [hl]
      · cases q <;> simp [hasLeadingSlash]
    simp only [Bool.false_eq_true, if_false, hcut.1, hcut.2, true_and]
    by_cases hd : root = dotRoot
    · rw [hd]
      cases q with
      | nil => exact .root
      | cons c t => exact .bare _ (Or.inr rfl) hq
    · have hd' : (root == dotRoot) = false := by simpa using hd
      simp only [hd', Bool.false_eq_true, if_false]
      cases q with
      | nil => exact .root
      | cons c t =>
        cases root with
        | nil => exact .bare _ (Or.inl rfl) hq
        | cons r rs => exact .below _ hq

theorem shape_suffix {b : Prop} {root fp : Bytes} (x : Bytes) (h : Shape b root fp) (hne : fp ≠ root)
    (hx : GoodSuffix x) : Shape b root (fp ++ x) := by
  cases h with
  | root => exact absurd rfl hne
  | bare _ hb hq => exact .bare _ hb (goodName_suffix fp x hq hx)
  | below q hq =>
    rw [List.append_assoc, List.cons_append]
    exact .below _ (goodName_suffix q x hq hx)

/-- the index-file name of openIndexFile; "" is a possible directory name only over a bare root -/
theorem shape_index {b : Prop} {root fp : Bytes} (ix : Bytes) (h : Shape b root fp) (hb : root = [] → b)
    (hi : GoodName ix) : Shape b root (if fp != [] then fp ++ 47 :: ix else ix) := by
  cases h with
  | root =>
    cases root with
    | nil => exact .bare ix (hb rfl) hi
    | cons c t => exact .below ix hi
  | bare _ hb' hq =>
    cases fp with
    | nil => exact .bare ix hb' hi
    | cons c t => exact .bare _ hb' ((goodName_join _ ix).2 ⟨hq, hi⟩)
  | below q hq =>
    have : (root ++ 47 :: q != []) = true := by simp
    rw [if_pos this, List.append_assoc, List.cons_append]
    exact .below _ ((goodName_join q ix).2 ⟨hq, hi⟩)

/-- the directory name handed to ReadDir -/
theorem shape_readDir {b : Prop} {root fp : Bytes} (h : Shape b root fp) (hb : root = [] → b) :
    Shape b root (if fp == [] then dotRoot else fp) := by
  have hdot : GoodName dotRoot := ⟨rfl, by decide⟩
  cases h with
  | root =>
    cases root with
    | nil => exact .bare _ (hb rfl) hdot
    | cons c t => exact .root
  | bare _ hb' hq =>
    cases fp with
    | nil => exact .bare _ hb' hdot
    | cons c t => exact .bare _ hb' hq
  | below q hq =>
    have : (root ++ 47 :: q == []) = false := by simp
    rw [this]
    exact .below q hq

theorem shape_dirOf (b : Prop) (base q : Bytes) (hq : GoodName q) : Shape b base (dirOf (base ++ 47 :: q)) := by
  rw [dirOf_append base _ List.mem_cons_self, dirOf]
  by_cases h : 47 ∈ q
  · obtain ⟨r, hr, _⟩ := dirOf_spec q h
    rw [hr, goodName_join] at hq
    rw [if_pos (by simpa using h)]
    exact .below _ hq.1
  · rw [if_neg (by simpa using h), List.append_nil]
    exact .root

end Fh.Proofs.FsPath
