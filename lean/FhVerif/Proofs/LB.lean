/-
Facts about Model/LB.lean behind C40: the scan of `LBClient.get` keeps the first lexicographic minimum; the penalty
accounting of a client is an invariant of every bounded run.  Events on one client go through `updClient`, so
per-client invariants are checked on the client alone (`inv_upd`).  Then what `route` returns (`route_spec`), and the run of
failing calls on one client behind `concurrent_failures_settle_at_min` (`JInv`, `jinv_run`).
-/
import FhVerif.Model.LB
import FhVerif.Base.Run

namespace Fh.Proofs.LB
open Fh Fh.Model.LB

/-- `ci` at index `i` is the first minimum of `L` in the order `get` scans by: `load`, then `total` -/
def First (L : List Client) (i : Nat) (ci : Client) : Prop :=
  L[i]? = some ci ∧ ∀ j cj, L[j]? = some cj →
    (ci.load < cj.load ∨ (ci.load = cj.load ∧ ci.total ≤ cj.total)) ∧
    (j < i → (ci.load < cj.load ∨ (ci.load = cj.load ∧ ci.total < cj.total)))

theorem getElem?_snoc_cases (pre : List Client) (c : Client) (j : Nat) (c' : Client)
    (h : (pre ++ [c])[j]? = some c') : (j < pre.length ∧ pre[j]? = some c') ∨ (j = pre.length ∧ c' = c) := by
  rw [List.getElem?_append] at h
  split at h
  · exact .inl ⟨‹_›, h⟩
  · rw [List.getElem?_singleton] at h
    split at h
    · exact .inr ⟨by omega, by cases h; rfl⟩
    · cases h

theorem scan_first (rest : List Client) : ∀ (pre : List Client) (i : Nat) (ci : Client), First pre i ci →
    ∃ cj, First (pre ++ rest) (scan rest pre.length (i, ci.load, ci.total)).1 cj := by
  induction rest with
  | nil => intro pre i ci h; exact ⟨ci, by simpa [scan] using h⟩
  | cons c rest ih =>
    intro pre i ci ⟨hci, hall⟩
    have hi : i < pre.length := (List.getElem?_eq_some_iff.mp hci).1
    rw [scan, show pre ++ c :: rest = (pre ++ [c]) ++ rest by simp, show pre.length + 1 = (pre ++ [c]).length by simp]
    split <;> apply ih
    · -- `c` is strictly below the old minimum, hence below everything in `pre`
      refine ⟨by simp, fun j cj hj => ?_⟩
      rcases getElem?_snoc_cases pre c j cj hj with ⟨_, hpre⟩ | ⟨_, rfl⟩
      · have := (hall j cj hpre).1; omega
      · omega
    · refine ⟨by rw [List.getElem?_append_left hi]; exact hci, fun j cj hj => ?_⟩
      rcases getElem?_snoc_cases pre c j cj hj with ⟨_, hpre⟩ | ⟨_, rfl⟩
      · exact hall j cj hpre
      · omega

theorem get_best (cs : List Client) (i : Nat) (h : Fh.Model.LB.get cs = some i) : ∃ ci, First cs i ci := by
  cases cs with
  | nil => cases h
  | cons c rest =>
    cases h
    refine scan_first rest [c] 0 c ⟨rfl, fun j cj hj => ?_⟩
    rw [List.getElem?_singleton] at hj
    split at hj <;> cases hj
    omega

theorem run_eq_iter (s : State) (evs : List Ev) : run s evs = iter step s evs := by
  induction evs generalizing s with
  | nil => rfl
  | cons e es ih => rw [run, Iter.iter_cons]; cases step s e <;> simp [ih]

theorem updClient_some {s s' : State} {i : Nat} {f : Client → Option Client} :
    updClient s i f = some s' ↔ ∃ c c', s.cs[i]? = some c ∧ f c = some c' ∧ s' = { s with cs := s.cs.set i c' } := by
  unfold updClient
  cases s.cs[i]? with
  | none => simp
  | some c => cases hf : f c <;> simp [hf, eq_comm]

theorem ensureInit_some {s s' : State} (h : ensureInit s = some s') :
    s' = s ∨ (s.cfg ≠ [] ∧ s' = { s with inited := true, cs := s.cs ++ s.cfg.map fun p => Client.fresh p.1 p.2 }) := by
  unfold ensureInit at h
  split at h
  · cases h; exact .inl rfl
  · split at h
    · cases h
    · cases h; exact .inr ⟨fun hc => by simp [hc] at *, rfl⟩

theorem route_spec (s : State) :
    (s.inited = false ∧ s.cfg = [] ∧ route s = (s, .panicEmptyConfig)) ∨
    (Fh.Model.LB.get (route s).1.cs = none ∧ (route s).2 = .errNoClients) ∨
    ∃ i, Fh.Model.LB.get (route s).1.cs = some i ∧ (route s).2 = .routed i := by
  unfold route
  cases hi : ensureInit s with
  | none =>
    unfold ensureInit at hi
    cases hin : s.inited <;> simp [hin] at hi
    exact .inl ⟨rfl, hi, rfl⟩
  | some s' =>
    simp only
    cases hg : Fh.Model.LB.get s'.cs with
    | none => exact .inr (.inl ⟨hg, rfl⟩)
    | some i => exact .inr (.inr ⟨i, hg, rfl⟩)

theorem W_eq : W = 2 ^ 32 := rfl

/-- one client: the penalty is what armed timers and calls in flight account for, the settled part stays within
    `maxPenalty`, and no timer is due later than one penalty duration after the last failure -/
def CInv (now : Nat) (c : Client) : Prop :=
  c.penalty = c.timers.length + c.inflightOk + c.inflightOver ∧
  c.timers.length + c.inflightOk ≤ Gen.maxPenalty ∧
  c.lastFail ≤ now ∧ ∀ d ∈ c.timers, d ≤ c.lastFail + Gen.penaltyDurationNs

def Inv (s : State) : Prop := ∀ c ∈ s.cs, CInv s.now c

theorem cinv_fresh (now id : Nat) (p : Int) : CInv now (Client.fresh id p) := by
  simp [CInv, Client.fresh]

theorem inv_start (cfg : List (Nat × Int)) : Inv (State.start cfg) := by
  intro c hc; cases hc

theorem incU32_lt {p : Nat} (h : p + 1 < W) : incU32 p = p + 1 := Nat.mod_eq_of_lt h

theorem decU32_pos {p : Nat} (h0 : 0 < p) (h : p < W) : decU32 p = p - 1 := by
  have hW : 0 < W := by decide
  rw [decU32, show p + (W - 1) = (p - 1) + W by omega, Nat.add_mod_right]
  exact Nat.mod_eq_of_lt (by omega)

theorem inv_upd {s s' : State} {i : Nat} {f : Client → Option Client}
    (h : updClient s i f = some s') (hinv : Inv s)
    (hf : ∀ c c', c ∈ s.cs → f c = some c' → CInv s.now c → CInv s.now c') : Inv s' := by
  obtain ⟨c, c', hc, hfc, rfl⟩ := updClient_some.mp h
  have hcm : c ∈ s.cs := List.mem_of_getElem? hc
  intro c'' hmem
  rcases List.mem_or_eq_of_mem_set hmem with h1 | rfl
  · exact hinv c'' h1
  · exact hf c _ hcm hfc (hinv c hcm)

theorem inv_step {s s' : State} {e : Ev} (hinv : Inv s) (hb : Bounded s) (h : step s e = some s') : Inv s' := by
  cases e with
  | setPending id n =>
    cases h
    intro c hc
    obtain ⟨c0, hc0, rfl⟩ := List.mem_map.mp hc
    split <;> exact hinv c0 hc0
  | addClient id p =>
    cases h
    intro c hc
    rcases List.mem_append.mp hc with hc | hc
    · exact hinv c hc
    · cases List.mem_singleton.mp hc; exact cinv_fresh _ _ _
  | removeClients ids => cases h; exact fun c hc => hinv c (List.mem_filter.mp hc).1
  | tick d =>
    cases h
    intro c hc
    obtain ⟨h1, h2, h3, h4⟩ := hinv c hc
    exact ⟨h1, h2, Nat.le_add_right_of_le h3, h4⟩
  | get =>
    rcases ensureInit_some h with rfl | ⟨_, rfl⟩
    · exact hinv
    · intro c hc
      rcases List.mem_append.mp hc with hc | hc
      · exact hinv c hc
      · obtain ⟨p, _, rfl⟩ := List.mem_map.mp hc; exact cinv_fresh _ _ _
  | succeed i => simp only [step] at h; exact inv_upd h hinv fun c c' _ hf hc => by cases hf; exact hc
  | failAdd i =>
    simp only [step] at h
    refine inv_upd h hinv fun c c' hmem hf ⟨h1, h2, h3, h4⟩ => ?_
    have hbd := hb c hmem
    simp only [incU32_lt (p := c.penalty) (by omega)] at hf
    split at hf <;> cases hf <;> exact ⟨by simp only; omega, by simp only; omega, h3, h4⟩
  | failArm i =>
    simp only [step] at h
    refine inv_upd h hinv fun c c' _ hf ⟨h1, h2, h3, h4⟩ => ?_
    split at hf <;> cases hf
    refine ⟨by simp only [List.length_cons]; omega, by simp only [List.length_cons]; omega, Nat.le_refl _, fun d hd => ?_⟩
    rcases List.mem_cons.mp hd with rfl | hd
    · exact Nat.le_refl _
    · exact Nat.le_trans (h4 d hd) (Nat.add_le_add_right h3 _)
  | failUndo i =>
    simp only [step] at h
    refine inv_upd h hinv fun c c' hmem hf ⟨h1, h2, h3, h4⟩ => ?_
    have hbd := hb c hmem
    split at hf <;> cases hf
    exact ⟨by simp only [decU32_pos (p := c.penalty) (by omega) (by omega)]; omega, h2, h3, h4⟩
  | timer i k =>
    simp only [step] at h
    refine inv_upd h hinv fun c c' hmem hf ⟨h1, h2, h3, h4⟩ => ?_
    have hbd := hb c hmem
    split at hf
    · cases hf
    · rename_i due hk
      split at hf <;> cases hf
      have hlt : k < c.timers.length := (List.getElem?_eq_some_iff.mp hk).1
      exact ⟨by simp only [decU32_pos (p := c.penalty) (by omega) (by omega), List.length_eraseIdx, hlt, if_true]; omega,
             by simp only [List.length_eraseIdx, hlt, if_true]; omega, h3, fun d hdm => h4 d (List.mem_of_mem_eraseIdx hdm)⟩

theorem boundedRun_inv {P : State → Prop} (hstep : ∀ s e s', P s → Bounded s → step s e = some s' → P s')
    {evs : List Ev} {s s' : State} (hp : P s) (hb : BoundedRun s evs) (h : run s evs = some s') : P s' ∧ Bounded s' := by
  fun_induction run s evs with
  | case1 => cases h; exact ⟨hp, hb⟩
  | case2 => cases h
  | case3 s e es s1 hs ih => rw [BoundedRun, hs] at hb; exact ih (hstep _ _ _ hp hb.1 hs) hb.2 h

theorem inv_run {evs : List Ev} {s s' : State} (hinv : Inv s) (hb : BoundedRun s evs) (h : run s evs = some s') :
    Inv s' ∧ Bounded s' :=
  boundedRun_inv (fun _ _ _ hi hb hs => inv_step hi hb hs) hinv hb h

/-- no step empties the configured list (so the developer panic of `ensureInit` stays out of reach) -/
theorem cfg_step {s s' : State} {e : Ev} (h : step s e = some s') (hc : s'.cfg = []) : s.cfg = [] := by
  cases e with
  | setPending id n => cases h; exact List.map_eq_nil_iff.mp hc
  | get =>
    rcases ensureInit_some h with rfl | ⟨_, rfl⟩
    · exact hc
    · exact hc
  | addClient _ _ | removeClients _ | tick _ => cases h; exact hc
  | succeed _ | failAdd _ | failArm _ | failUndo _ | timer _ _ =>
    simp only [step] at h
    obtain ⟨_, _, _, _, rfl⟩ := updClient_some.mp h
    exact hc

/-- the events of callers failing on client 0, in any interleaving -/
def OnlyFail0 (evs : List Ev) : Prop := ∀ e ∈ evs, e = .failAdd 0 ∨ e = .failArm 0 ∨ e = .failUndo 0

def countAdds : List Ev → Nat
  | [] => 0
  | .failAdd _ :: es => countAdds es + 1
  | _ :: es => countAdds es

/-- with no timer firing, armed timers + callers about to arm = min(#AddUint32 so far, maxPenalty); the callers about
    to undo are among the excess -/
def JInv (c : Client) (adds : Nat) : Prop :=
  c.timers.length + c.inflightOk = min adds Gen.maxPenalty ∧ c.timers.length + c.inflightOk + c.inflightOver ≤ adds

theorem upd_single {s s' : State} {c : Client} {f : Client → Option Client} (hs : s.cs = [c])
    (h : updClient s 0 f = some s') : ∃ c', f c = some c' ∧ s'.cs = [c'] := by
  obtain ⟨c0, c', hc0, hf, rfl⟩ := updClient_some.mp h
  rw [hs] at hc0
  cases hc0
  exact ⟨c', hf, by simp [hs]⟩

theorem jinv_run (evs : List Ev) (s s' : State) (c : Client) (adds : Nat) (hs : s.cs = [c]) (hj : JInv c adds)
    (ho : OnlyFail0 evs) (hinv : Inv s) (hb : BoundedRun s evs) (h : run s evs = some s') :
    ∃ c', s'.cs = [c'] ∧ JInv c' (adds + countAdds evs) := by
  fun_induction run s evs generalizing c adds with
  | case1 => cases h; exact ⟨c, hs, hj⟩
  | case2 => cases h
  | case3 s e es s1 hstep ih =>
    rw [BoundedRun, hstep] at hb
    have hm : c ∈ s.cs := hs ▸ List.mem_singleton_self c
    have hbd := hb.1 c hm
    obtain ⟨j1, _⟩ := hinv c hm
    obtain ⟨j2, j3⟩ := hj
    have ih := fun c' k hs1 hj' => ih c' (adds + k) hs1 hj' (fun x hx => ho x (List.mem_cons_of_mem _ hx))
      (inv_step hinv hb.1 hstep) hb.2 h
    -- the step changes the one client, and adds `k = 1` to the count if it is an `AddUint32`
    rcases ho e List.mem_cons_self with rfl | rfl | rfl
    all_goals
      simp only [step] at hstep
      obtain ⟨c', hf, hc'⟩ := upd_single hs hstep
    · simp only [incU32_lt (p := c.penalty) (by omega)] at hf
      rw [countAdds, ← Nat.add_assoc, Nat.add_right_comm]
      refine ih c' 1 hc' ?_
      split at hf <;> cases hf <;> exact ⟨by simp only; omega, by simp only; omega⟩
    · refine ih c' 0 hc' ?_
      split at hf <;> cases hf
      exact ⟨by simp only [List.length_cons]; omega, by simp only [List.length_cons]; omega⟩
    · refine ih c' 0 hc' ?_
      split at hf <;> cases hf
      exact ⟨j2, by simp only; omega⟩

end Fh.Proofs.LB
