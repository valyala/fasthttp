/-
For C20: what the trust decision (isDomainOrSubdomain) accepts, which header names one loop iteration can leave on the
request, and the attempts of the redirect loop (runLoop) as an inductive `Trace`, closed under taking suffixes.
-/
import FhVerif.Model.Redirect
import FhVerif.Base.Run

namespace Fh.Proofs.Redirect
open Fh Fh.Model Fh.Model.Redir

theorem foldEq_length {a b : Bytes} (h : foldEq a b = true) : a.length = b.length := by
  have := congrArg List.length (eq_of_beq h)
  rwa [lowercaseBytes, lowercaseBytes, List.length_map, List.length_map] at this

theorem contains_false_iff (l : Bytes) (c : UInt8) : l.contains c = false ↔ c ∉ l := by
  rw [← Bool.not_eq_true, List.contains_iff_mem]

theorem split_at_iff (l suf : Bytes) (k : Nat) (c : UInt8) (hc : c ≠ 0) :
    (l.getD k 0 = c ∧ l.drop (k + 1) = suf) ↔ ∃ pre, pre.length = k ∧ l = pre ++ c :: suf := by
  constructor
  · rintro ⟨hg, hd⟩
    have hk : k < l.length := by
      refine Nat.lt_of_not_le fun hle => hc ?_
      rw [← hg, List.getD_eq_getElem?_getD, List.getElem?_eq_none hle]; rfl
    refine ⟨l.take k, List.length_take_of_le (Nat.le_of_lt hk), ?_⟩
    rw [← hd, ← hg, List.getD_eq_getElem?_getD, List.getElem?_eq_getElem hk, Option.getD_some,
      ← List.drop_eq_getElem_cons hk, List.take_append_drop]
  · rintro ⟨pre, rfl, rfl⟩
    constructor
    · rw [List.getD_eq_getElem?_getD, List.getElem?_append_right (Nat.le_refl _), Nat.sub_self]; rfl
    · rw [List.drop_append, List.drop_of_length_le (Nat.le_succ _), Nat.add_sub_cancel_left]; rfl

theorem isDomainOrSubdomain_iff (sub parent : Bytes) :
    isDomainOrSubdomain sub parent = true ↔
      foldEq sub parent = true ∨
      (∃ pre suf, sub = pre ++ 46 :: suf ∧ foldEq suf parent = true ∧ (58 : UInt8) ∉ sub ∧ (37 : UInt8) ∉ sub) := by
  unfold isDomainOrSubdomain
  by_cases h1 : foldEq sub parent = true
  · rw [if_pos h1]; exact ⟨fun _ => Or.inl h1, fun _ => rfl⟩
  rw [if_neg h1, or_iff_right h1]
  constructor
  · intro h
    by_cases h2 : (decide (sub.length ≤ parent.length) || sub.contains 58 || sub.contains 37) = true
    · rw [if_pos h2] at h; cases h
    rw [if_neg h2] at h
    by_cases h3 : (!foldEq (sub.drop (sub.length - parent.length)) parent) = true
    · rw [if_pos h3] at h; cases h
    rw [if_neg h3] at h
    simp only [Bool.or_eq_true, decide_eq_true_eq, not_or, Nat.not_le, Bool.not_eq_true, contains_false_iff,
      Bool.not_eq_eq_eq_not, Bool.not_true, Bool.not_eq_false] at h2 h3
    obtain ⟨pre, _, hs⟩ := (split_at_iff sub _ (sub.length - parent.length - 1) 46 (by decide)).mp
      ⟨eq_of_beq h, by rw [Nat.sub_add_cancel (Nat.sub_pos_of_lt h2.1.1)]⟩
    exact ⟨pre, _, hs, h3, h2.1.2, h2.2⟩
  · rintro ⟨pre, suf, hs, hf, hc, hp⟩
    have hlen : sub.length = pre.length + 1 + parent.length := by
      rw [hs, List.length_append, List.length_cons, foldEq_length hf]; omega
    have ⟨hg, hd⟩ := (split_at_iff sub suf pre.length 46 (by decide)).mpr ⟨pre, rfl, hs⟩
    have e1 : sub.length - parent.length = pre.length + 1 := by omega
    rw [if_neg, if_neg, e1, Nat.add_sub_cancel, hg]
    · rfl
    · rw [e1, hd, hf]; exact Bool.false_ne_true
    · rw [(contains_false_iff _ _).mpr hc, (contains_false_iff _ _).mpr hp, Bool.or_false, Bool.or_false,
        decide_eq_true_eq]
      omega

/-- `delName` and `delNameExact` are filters -/
theorem hasName_filter {ns : List Bytes} {p : Bytes → Bool} {t : Bytes} (h : hasName (ns.filter p) t = true) :
    hasName ns t = true := by
  unfold hasName at h ⊢
  rw [List.any_eq_true] at h ⊢
  obtain ⟨x, hx, hc⟩ := h
  exact ⟨x, (List.mem_filter.1 hx).1, hc⟩

theorem hasName_delNames {ts ns : List Bytes} {t : Bytes} (h : hasName (delNames ns ts) t = true) : hasName ns t = true :=
  foldl_inv (P := fun ns' => hasName ns' t = true → hasName ns t = true) (fun _ _ ih h => ih (hasName_filter h)) ts id h

theorem hasName_delName_self (ns : List Bytes) (t : Bytes) : hasName (delName ns t) t = false := by
  unfold hasName delName
  rw [List.any_eq_false]
  intro x hx
  have := (List.mem_filter.1 hx).2
  simpa using this

/-- a name deleted at some point of the fold is not brought back by the later deletions -/
theorem delNames_removes {ts : List Bytes} (ns : List Bytes) (t : Bytes) (h : t ∈ ts) : hasName (delNames ns ts) t = false := by
  obtain ⟨a, b, rfl⟩ := List.append_of_mem h
  rw [delNames, List.foldl_append, List.foldl_cons]
  exact Bool.eq_false_iff.mpr fun hc => Bool.false_ne_true ((hasName_delName_self _ t).symm.trans (hasName_delNames hc))

theorem hasName_setNameExact {ns : List Bytes} {x t : Bytes} (h : hasName (setNameExact ns x) t = true) :
    hasName ns t = true ∨ ciEqR x t = true := by
  unfold setNameExact at h
  split at h
  · exact Or.inl h
  · unfold hasName at h ⊢
    simp only [List.any_append, List.any_cons, List.any_nil, Bool.or_false, Bool.or_eq_true] at h
    exact h

theorem te_not_sensitive : ∀ t ∈ sensitiveNames, ciEqR teName t = false := by decide +kernel
theorem auth_not_framing : ∀ t ∈ framingNames, ciEqR authName t = false := by decide +kernel

/-- Request.Write adds no sensitive header unless the URL carries userinfo -/
theorem afterWrite_names {r : RReq} {t : Bytes} (ht : t ∈ sensitiveNames)
    (h : hasName (afterWrite r false).names t = true) : hasName r.names t = true := by
  unfold afterWrite at h
  simp only [Bool.false_eq_true, if_false] at h
  split at h
  · rcases hasName_setNameExact h with h | h
    · exact h
    · rw [te_not_sensitive t ht] at h; cases h
  · exact hasName_filter h
  · split at h
    · exact h
    · exact hasName_filter h

theorem stripSensitive_names {r : RReq} {anchor j t : Bytes} (h : hasName (stripSensitive r anchor j).names t = true) :
    hasName r.names t = true := by
  unfold stripSensitive at h
  split at h
  · exact h
  · exact hasName_delNames h

theorem stripSensitive_untrusted {r : RReq} {anchor j t : Bytes} (hu : trusted anchor j = false) (ht : t ∈ sensitiveNames) :
    hasName (stripSensitive r anchor j).names t = false := by
  unfold stripSensitive
  simp only [hu, Bool.false_eq_true, if_false]
  exact delNames_removes _ _ ht

theorem methodRule_names {r : RReq} {st : Nat} {t : Bytes} (h : hasName (methodRule r st).names t = true) :
    hasName r.names t = true := by
  unfold methodRule at h
  split at h
  · exact hasName_delNames h
  · split at h <;> exact h

theorem step_names {r : RReq} {anchor j t : Bytes} {st : Nat} (ht : t ∈ sensitiveNames)
    (h : hasName (methodRule (stripSensitive (afterWrite r false) anchor j) st).names t = true) :
    hasName r.names t = true :=
  afterWrite_names ht (stripSensitive_names (methodRule_names h))

variable {U : Type}

/-- resolved URLs carry no userinfo (URI.String never prints it) -/
def NoUserinfoAfterRedirect (E : Engine U) : Prop := ∀ u loc, E.userinfo (E.resolve u loc).1 = false

/-- The attempts of doRequestFollowRedirects from a loop head at `url`, `req`, counter `cnt`, reached through `via`:
    none, the attempt made here alone, or the attempt made here followed — after a redirect status within the
    budget — by those of the loop entered again at the resolved URL with the rewritten request. -/
inductive Trace (E : Engine U) (maxR : Int) (anchor : Bytes) :
    U → RReq → Nat → Option (Nat × Bytes) → List (Attempt U) → Prop
  | none {url req cnt via} : Trace E maxR anchor url req cnt via []
  | last {url req cnt via} : Trace E maxR anchor url req cnt via [⟨url, req, via⟩]
  | hop {url req cnt via status loc l} : isRedirect status = true → ((cnt + 1 : Nat) : Int) ≤ maxR →
      Trace E maxR anchor (E.resolve url loc).1
        (methodRule (stripSensitive (afterWrite req (E.userinfo url)) anchor (E.resolve url loc).2) status)
        (cnt + 1) (some (status, (E.resolve url loc).2)) l →
      Trace E maxR anchor url req cnt via (⟨url, req, via⟩ :: l)

theorem runLoop_trace (E : Engine U) (maxR : Int) (anchor : Bytes) :
    ∀ script url req cnt via, Trace E maxR anchor url req cnt via (runLoop E maxR anchor script url req cnt via).1 := by
  intro script
  induction script with
  | nil => intro url req cnt via; exact .none
  | cons r rest ih =>
    intro url req cnt via
    rw [runLoop]
    by_cases c1 : (!E.parseOk url) = true
    · rw [if_pos c1]; exact .none
    rw [if_neg c1]
    cases r with
    | none => exact .last
    | some resp =>
      dsimp only
      by_cases c2 : (!isRedirect resp.status) = true
      · rw [if_pos c2]; exact .last
      rw [if_neg c2]
      by_cases c3 : ((cnt + 1 : Nat) : Int) > maxR
      · rw [if_pos c3]; exact .last
      rw [if_neg c3]
      by_cases c4 : resp.location.isEmpty = true
      · rw [if_pos c4]; exact .last
      rw [if_neg c4]
      exact .hop (by simpa using c2) (Int.not_lt.mp c3) (ih _ _ _ _)

def Hop (E : Engine U) (anchor : Bytes) (a b : Attempt U) : Prop :=
  ∃ (status : Nat) (loc : Bytes), isRedirect status = true ∧
    b.url = (E.resolve a.url loc).1 ∧
    b.via = some (status, (E.resolve a.url loc).2) ∧
    b.req = methodRule (stripSensitive (afterWrite a.req (E.userinfo a.url)) anchor (E.resolve a.url loc).2) status

/-- the request carries one of the sensitive header names -/
def Carries (r : RReq) : Prop := ∃ t ∈ sensitiveNames, hasName r.names t = true

/-- the attempt was reached through a redirect whose target host was trusted w.r.t. the anchor -/
def TrustedVia (anchor : Bytes) (b : Attempt U) : Prop := ∃ s j, b.via = some (s, j) ∧ trusted anchor j = true

section
variable {E : Engine U} {maxR : Int} {anchor : Bytes} {url : U} {req : RReq} {cnt : Nat} {via : Option (Nat × Bytes)}
  {l pre post : List (Attempt U)} {a b : Attempt U}

theorem Trace.length_le (h : Trace E maxR anchor url req cnt via l) : l.length ≤ (maxR.toNat - cnt) + 1 := by
  induction h with
  | none => exact Nat.zero_le _
  | last => exact Nat.le_add_left _ _
  | hop _ hc _ ih =>
    rw [List.length_cons]
    omega

theorem Trace.head (h : Trace E maxR anchor url req cnt via (a :: l)) : a = ⟨url, req, via⟩ := by
  cases h <;> rfl

/-- every suffix of a trace is the trace of the loop entered at its first attempt -/
theorem Trace.suffix (h : Trace E maxR anchor url req cnt via l) (hs : a :: post <:+ l) :
    ∃ cnt', Trace E maxR anchor a.url a.req cnt' a.via (a :: post) := by
  induction h with
  | none => cases List.suffix_nil.mp hs
  | last =>
    rcases List.suffix_cons_iff.mp hs with e | e
    · cases e
      exact ⟨0, .last⟩
    · cases List.suffix_nil.mp e
  | hop hr hc ht ih =>
    rcases List.suffix_cons_iff.mp hs with e | e
    · cases e
      exact ⟨_, .hop hr hc ht⟩
    · exact ih e

theorem Trace.step (h : Trace E maxR anchor url req cnt via (pre ++ a :: b :: post)) : Hop E anchor a b := by
  obtain ⟨_, ht⟩ := h.suffix (List.suffix_append pre _)
  obtain ⟨_, _, _⟩ := a
  cases ht with
  | hop hr _ ht' =>
    cases ht'.head
    exact ⟨_, _, hr, rfl, rfl, rfl⟩

theorem Hop.untrusted_clean (h : Hop E anchor a b) {s : Nat} {j : Bytes}
    (hv : b.via = some (s, j)) (hu : trusted anchor j = false) {t : Bytes} (ht : t ∈ sensitiveNames) :
    hasName b.req.names t = false := by
  obtain ⟨_, _, _, _, hvia, hreq⟩ := h
  cases hvia.symm.trans hv
  rw [hreq]
  exact Bool.eq_false_iff.mpr fun hc =>
    Bool.false_ne_true ((stripSensitive_untrusted hu ht).symm.trans (methodRule_names hc))

theorem Hop.no_userinfo (hU : NoUserinfoAfterRedirect E) (h : Hop E anchor a b) : E.userinfo b.url = false := by
  obtain ⟨_, _, _, hurl, _, _⟩ := h
  rw [hurl]; exact hU _ _

theorem Trace.absent (h : Trace E maxR anchor url req cnt via l) (hU : NoUserinfoAfterRedirect E) {t : Bytes}
    (ht : t ∈ sensitiveNames) (hoff : hasName req.names t = false) (hui : E.userinfo url = false) :
    ∀ b ∈ l, hasName b.req.names t = false := by
  induction h with
  | none => exact fun _ hb => nomatch hb
  | last => exact List.forall_mem_singleton.mpr hoff
  | hop _ _ _ ih =>
    refine List.forall_mem_cons.mpr ⟨hoff, ih ?_ (hU _ _)⟩
    rw [hui]
    exact Bool.eq_false_iff.mpr fun hc => Bool.false_ne_true (hoff.symm.trans (step_names ht hc))

theorem mem_tail_concat {α : Type} {a b : α} {pre : List α} (h : b ∈ (pre ++ [a]).tail) :
    ∃ p q, p ≠ [] ∧ pre ++ [a] = p ++ b :: q ∧ a ∈ b :: q := by
  cases pre with
  | nil => cases h
  | cons c pre =>
    rcases List.mem_append.mp h with h | h
    · obtain ⟨s, t, rfl⟩ := List.append_of_mem h
      exact ⟨c :: s, t ++ [a], List.cons_ne_nil _ _, by simp, by simp⟩
    · cases List.mem_singleton.mp h
      exact ⟨c :: pre, [], List.cons_ne_nil _ _, rfl, List.mem_singleton.mpr rfl⟩

/-- Any attempt but the first, at or after which some request still carries a sensitive header, was reached through
    a trusted redirect: an untrusted one strips them all, and they never come back. -/
theorem Trace.creds_trusted (h : Trace E maxR anchor url req cnt via (pre ++ b :: post)) (hU : NoUserinfoAfterRedirect E)
    (hne : pre ≠ []) (hc : ∃ x ∈ b :: post, Carries x.req) : TrustedVia anchor b := by
  obtain ⟨pre', a, rfl⟩ : ∃ pre' a, pre = pre' ++ [a] :=
    ⟨_, _, (List.dropLast_concat_getLast hne).symm⟩
  obtain ⟨_, hb⟩ := h.suffix (List.suffix_append _ _)
  rw [List.append_assoc] at h
  have hop : Hop E anchor a b := h.step
  obtain ⟨s, _, _, _, hvia, _⟩ := id hop
  refine ⟨s, _, hvia, Bool.of_not_eq_false fun hu => ?_⟩
  obtain ⟨x, hx, t, ht, hcar⟩ := hc
  have := hb.absent hU ht (hop.untrusted_clean hvia hu ht) (hop.no_userinfo hU) x hx
  exact Bool.false_ne_true (this.symm.trans hcar)

end

end Fh.Proofs.Redirect
