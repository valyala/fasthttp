/-
For C19: the attempts of HostClient.Do's retry loop form an `Attempts` chain; the bounds of C19 are inductions on it.
-/
import FhVerif.Model.Retry

namespace Fh.Proofs.Retry
open Fh Fh.Model.Retry

variable (cfg : Cfg) (maxA : Nat)

/-- The attempts the `for` loop of `HostClient.Do` makes from a loop head at clock `now`, counter `k`, deadline `dl`:
    none when the deadline has passed; otherwise the attempt made now, followed by those of the next iteration only
    if it failed with `retry = true`, the request has no body stream, the counter stays below the limit and the
    callback switch said retry. -/
inductive Attempts : Nat → Nat → Nat → List Attempt → Prop
  | nil {now k dl} : Attempts now k dl []
  | last {now k dl f} : ¬(cfg.timeout > 0 ∧ dl ≤ now) → Attempts now k dl [⟨now, f, dl⟩]
  | again {now k dl f now' l} : ¬(cfg.timeout > 0 ∧ dl ≤ now) → f.isErr = true → retryFlag f = true →
      cfg.hasBodyStream = false → k + 1 < maxA → (callback cfg (k + 1)).2 = true →
      Attempts now' (k + 1) (nextDeadline cfg (callback cfg (k + 1)).1 now' dl) l → Attempts now k dl (⟨now, f, dl⟩ :: l)

theorem loop_attempts : ∀ script now k dl, Attempts cfg maxA now k dl (loop cfg maxA script now k dl).attempts := by
  intro script
  induction script with
  | nil =>
    intro now k dl
    rw [loop]
    by_cases c : cfg.timeout > 0 ∧ dl ≤ now
    · rw [if_pos c]; exact .nil
    · rw [if_neg c]; exact .last c
  | cons hd rest ih =>
    intro now k dl
    rw [loop]
    by_cases c : cfg.timeout > 0 ∧ dl ≤ now
    · rw [if_pos c]; exact .nil
    rw [if_neg c]
    dsimp only
    by_cases c2 : (!hd.1.isErr || !retryFlag hd.1) = true
    · rw [if_pos c2]; exact .last c
    rw [if_neg c2]
    by_cases c3 : cfg.hasBodyStream = true
    · rw [if_pos c3]; exact .last c
    rw [if_neg c3]
    by_cases c4 : k + 1 ≥ maxA
    · rw [if_pos c4]; exact .last c
    rw [if_neg c4]
    by_cases c5 : (!(callback cfg (k + 1)).2) = true
    · rw [if_pos c5]; exact .last c
    rw [if_neg c5]
    simp only [Bool.or_eq_true, Bool.not_eq_true', not_or, Bool.not_eq_false, Bool.not_eq_true] at c2 c3 c5
    exact .again c c2.1 c2.2 c3 (Nat.lt_of_not_le c4) c5 (ih _ _ _)

theorem run_attempts (script : List (Fault × Dur)) (t0 : Nat) :
    Attempts cfg (effMax cfg) t0 0 (t0 + cfg.timeout) (run cfg script t0).attempts :=
  loop_attempts cfg _ script t0 0 _

section
variable {cfg maxA} {now k dl : Nat} {l : List Attempt} (h : Attempts cfg maxA now k dl l)
include h

theorem Attempts.length_le (hk : k < maxA) : l.length + k ≤ maxA := by
  induction h with
  | nil => exact Nat.le_of_lt (Nat.zero_add _ ▸ hk)
  | last => exact Nat.add_comm .. ▸ Nat.succ_le_of_lt hk
  | again _ _ _ _ hk' _ _ ih =>
    have := ih hk'
    rw [List.length_cons]
    omega

/-- an attempt that is followed by another one failed with `retry = true`, and the callback switch allowed it -/
theorem Attempts.nonlast {i : Nat} {a : Attempt} (ha : l[i]? = some a) (hl : i + 1 < l.length) :
    a.fault.isErr = true ∧ retryFlag a.fault = true ∧ cfg.hasBodyStream = false ∧ (callback cfg (k + i + 1)).2 = true := by
  induction h generalizing i with
  | nil => cases ha
  | last => exact absurd hl (Nat.not_lt_of_le (Nat.succ_le_succ (Nat.zero_le i)))
  | again _ he hr hb _ hc _ ih =>
    cases i with
    | zero =>
      cases Option.some.inj ha
      exact ⟨he, hr, hb, hc⟩
    | succ j =>
      have := ih ha (Nat.lt_of_succ_lt_succ hl)
      rwa [Nat.add_right_comm _ 1 j, Nat.add_assoc _ j 1] at this

theorem Attempts.start_lt_deadline (ht : cfg.timeout > 0) : ∀ a ∈ l, a.start < a.deadline := by
  induction h with
  | nil => exact fun _ ha => nomatch ha
  | last c => exact List.forall_mem_singleton.mpr (Nat.lt_of_not_le fun hh => c ⟨ht, hh⟩)
  | again c _ _ _ _ _ _ ih => exact List.forall_mem_cons.mpr ⟨Nat.lt_of_not_le fun hh => c ⟨ht, hh⟩, ih⟩

theorem Attempts.deadline_const (hnr : ∀ k, (callback cfg k).1 = false) : ∀ a ∈ l, a.deadline = dl := by
  induction h with
  | nil => exact fun _ ha => nomatch ha
  | last => exact List.forall_mem_singleton.mpr rfl
  | again _ _ _ _ _ _ _ ih =>
    refine List.forall_mem_cons.mpr ⟨rfl, fun a ha => ?_⟩
    rw [ih a ha, hnr]
    exact if_neg fun hh => Bool.false_ne_true hh.2

end

theorem run_nonlast (script : List (Fault × Dur)) (t0 i : Nat) (hl : i + 1 < (run cfg script t0).attempts.length) :
    ∃ a, (run cfg script t0).attempts[i]? = some a ∧ a.fault.isErr = true ∧ retryFlag a.fault = true ∧
      cfg.hasBodyStream = false ∧ (callback cfg (i + 1)).2 = true := by
  have ha := List.getElem?_eq_getElem (Nat.lt_of_succ_lt hl)
  have := (run_attempts cfg script t0).nonlast ha hl
  rw [Nat.zero_add] at this
  exact ⟨_, ha, this⟩

end Fh.Proofs.Retry
