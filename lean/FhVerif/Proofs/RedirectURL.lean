/-
The law of the concrete URL engine (Model/RedirectURL.lean) that the C20 loop theorems rely on: the URI value a
resolution leaves behind is `Good` (scheme and host free of '/', '@' …, host already lower case), and re-parsing the
printed form of a good value (`reparse`) finds no userinfo (URI.String prints scheme://host only and the stored host
has no '@') and, on success, the same host: the host Client.Do acts on is the host the trust decision looked at.
-/
import FhVerif.Model.RedirectURL
import FhVerif.Props.C32

namespace Fh.Proofs.RedirectURL
open Fh Fh.Model Fh.Model.Redir Fh.Props Fh.Props.C32

theorem all_lowercase {p : UInt8 → Bool} (hp : ∀ c, p (toLower c) = p c) (b : Bytes) :
    (lowercaseBytes b).all p = b.all p := by
  unfold lowercaseBytes
  rw [List.all_map]
  exact congrArg b.all (funext hp)

/-- a byte that is none of '/', '?', '#', '@' -/
def plainByte (c : UInt8) : Bool := !isHostEnd c && !(c == 64)

theorem plain_lower (c : UInt8) : plainByte (toLower c) = plainByte c := by
  unfold plainByte isHostEnd
  rw [toLower_beq_nonletter c 47 (by decide), toLower_beq_nonletter c 63 (by decide),
    toLower_beq_nonletter c 35 (by decide), toLower_beq_nonletter c 64 (by decide)]

/-- neither '/' nor '@' -/
def schemeByte (c : UInt8) : Bool := !(c == 47) && !(c == 64)

theorem scheme_lower (c : UInt8) : schemeByte (toLower c) = schemeByte c := by
  unfold schemeByte
  rw [toLower_beq_nonletter c 47 (by decide), toLower_beq_nonletter c 64 (by decide)]

/-- the bytes isValidScheme admits are letters, digits, '+', '-', '.': not '/' and not '@' -/
theorem scheme_char (c : UInt8) (h : (isAlphaB c || isDigitB c || c == 43 || c == 45 || c == 46) = true) :
    schemeByte c = true := by
  unfold schemeByte
  rw [Bool.and_eq_true, Bool.not_eq_true', Bool.not_eq_true', beq_eq_false_iff_ne, beq_eq_false_iff_ne]
  constructor <;> rintro rfl <;> exact absurd h (by decide)

theorem validScheme_bytes (s : Bytes) (h : isValidScheme s = true) : s.all schemeByte = true := by
  cases s with
  | nil => cases h
  | cons c rest =>
    simp only [isValidScheme, Bool.and_eq_true, List.all_eq_true] at h
    rw [List.all_cons, Bool.and_eq_true, List.all_eq_true]
    exact ⟨scheme_char c (by rw [h.1]; rfl), fun x hx => scheme_char x (h.2 x hx)⟩

theorem afterLast_sub (c : UInt8) (b : Bytes) : ∀ x ∈ afterLast c b, x ∈ b := fun _ hx =>
  List.mem_reverse.1 ((List.takeWhile_sublist _).subset (List.mem_reverse.1 hx))

theorem afterLast_no (c : UInt8) (b : Bytes) : (afterLast c b).all (· != c) = true := by
  unfold afterLast
  rw [List.all_reverse]
  exact List.all_takeWhile

theorem splitHost_noEnd (uri : Bytes) : (splitHostURI [] uri).2.1.all (fun c => !isHostEnd c) = true := by
  unfold splitHostURI
  split
  · rfl
  · split
    · rfl
    · split <;> exact List.all_takeWhile

theorem hostOnly_plain (uri : Bytes) : (afterLast 64 (splitHostURI [] uri).2.1).all plainByte = true := by
  have h1 := splitHost_noEnd uri
  have h2 := afterLast_no 64 (splitHostURI [] uri).2.1
  rw [List.all_eq_true] at h1 h2 ⊢
  intro x hx
  have b := h2 x hx
  rw [bne_iff_ne, ← beq_eq_false_iff_ne] at b
  rw [plainByte, h1 x (afterLast_sub 64 _ x hx), b]; rfl

theorem parseHostLite_ok {h h' : Bytes} (e : parseHostLite h = .ok h') : h' = h := by
  unfold parseHostLite at e
  split at e
  · cases e
  · split at e
    · cases e
    · injection e with e; exact e.symm

structure Good (s : PU) : Prop where
  scheme : s.scheme.all schemeByte = true
  host : s.host.all plainByte = true
  lower : s.unk = false → ∀ h, parseHostLite s.host = .ok h → lowercaseBytes s.host = s.host

theorem ite_ind {α : Type} {P : α → Prop} {c : Prop} [Decidable c] {a b : α} (ha : P a) (hb : P b) :
    P (if c then a else b) := by
  split <;> assumption

theorem good_empty : Good {} := ⟨rfl, rfl, fun _ _ _ => rfl⟩

theorem good_hostResult (scheme hostOnly : Bytes) (user : Bool)
    (hs : scheme.all schemeByte = true) (hp : hostOnly.all plainByte = true) :
    Good (hostResult scheme hostOnly user (parseHostLite hostOnly)).state := by
  cases hm : parseHostLite hostOnly with
  | unmodelled => exact ⟨hs, hp, fun hu => nomatch hu⟩
  | err => exact ⟨hs, hp, fun _ h he => nomatch hm.symm.trans he⟩
  | ok h =>
    cases parseHostLite_ok hm
    exact ⟨hs, (all_lowercase plain_lower _).trans hp, fun _ _ _ => lowercase_idem _⟩

theorem good_parseAuthority (scheme host : Bytes) (hs : scheme.all schemeByte = true)
    (hp : (afterLast 64 host).all plainByte = true) : Good (parseAuthority scheme host).state :=
  ite_ind (P := fun r : PRes => Good r.state) ⟨hs, rfl, fun _ _ _ => rfl⟩ (good_hostResult _ _ _ hs hp)

theorem good_parseSplit (scheme host : Bytes) (hp : (afterLast 64 host).all plainByte = true) :
    Good (parseSplit scheme host).state := by
  unfold parseSplit
  split
  · exact good_empty
  · rename_i hs
    refine good_parseAuthority _ _ ((all_lowercase scheme_lower _).trans ?_) hp
    cases scheme with
    | nil => rfl
    | cons c rest =>
      rw [List.isEmpty_cons, Bool.not_false, Bool.true_and, Bool.not_eq_true', Bool.not_eq_false] at hs
      exact validScheme_bytes _ hs

theorem good_parse (uri : Bytes) : Good (parseURL uri).state :=
  ite_ind (P := fun r : PRes => Good r.state) good_empty (good_parseSplit _ _ (hostOnly_plain uri))

theorem good_merge (u : PU) (hu : Good u) (r : PRes) (hr : Good r.state) : Good (mergeAbsolute u r) := by
  cases r with
  | fail s => exact hr
  | ok s => exact ite_ind ⟨hu.scheme, hr.host, hr.lower⟩ hr

theorem good_update (u : PU) (hu : Good u) (newURI : Bytes) : Good (updateBytes u newURI) :=
  ite_ind hu <| ite_ind (good_merge u hu _ (good_parse _)) <| ite_ind (good_parse _) <|
    ite_ind ⟨hu.scheme, hu.host, hu.lower⟩ (good_parse _)

theorem good_getRedirect (base : UrlV) (loc : Bytes) : Good (getRedirect base loc) :=
  good_update _ (good_update _ good_empty _) _

theorem cutSlashSlash_cons_ne (c : UInt8) (t : Bytes) (hc : c ≠ 47) :
    cutSlashSlash (c :: t) = (cutSlashSlash t).map fun p => (c :: p.1, p.2) := by
  rw [cutSlashSlash]
  exact fun _ h _ => hc h

theorem cut_prefix : ∀ (s rest : Bytes), s.all (fun c => !(c == 47)) = true →
    cutSlashSlash (s ++ 58 :: 47 :: 47 :: rest) = some (s ++ [58], rest)
  | [], rest, _ => rfl
  | c :: s, rest, h => by
    rw [List.all_cons, Bool.and_eq_true, Bool.not_eq_true', beq_eq_false_iff_ne] at h
    rw [List.cons_append, cutSlashSlash_cons_ne c _ h.1, cut_prefix s rest h.2]; rfl

theorem takeWhile_plain (h m : Bytes) (hh : h.all (fun c => !isHostEnd c) = true) :
    (h ++ 47 :: m).takeWhile (fun c => !isHostEnd c) = h ∧ (h ++ 47 :: m).dropWhile (fun c => !isHostEnd c) = 47 :: m := by
  rw [List.all_eq_true] at hh
  rw [List.takeWhile_append_of_pos hh, List.dropWhile_append_of_pos hh]
  exact ⟨List.append_nil h, rfl⟩

theorem no_at_auth (h : Bytes) (hh : h.all plainByte = true) : authPart h = [] ∧ afterLast 64 h = h := by
  have hall : ∀ x ∈ h.reverse, (x != 64) = true := by
    intro x hx
    have := List.all_eq_true.mp hh x (List.mem_reverse.1 hx)
    rw [plainByte, Bool.and_eq_true] at this
    exact this.2
  constructor
  · unfold authPart
    rw [← List.append_nil h.reverse, List.dropWhile_append_of_pos hall]; rfl
  · unfold afterLast
    rw [← List.append_nil h.reverse, List.takeWhile_append_of_pos hall, List.takeWhile_nil, List.append_nil,
      List.reverse_reverse]

/-- the string standing for URI.String() of a state -/
def printed (scheme host : Bytes) (ctl : Bool) : Bytes :=
  (if scheme.isEmpty then strHTTPb else scheme) ++ strColonSlashSlash ++ host ++ [47] ++ (if ctl then [1] else [])

theorem split_printed (sch host tail : Bytes)
    (hs : sch.all schemeByte = true) (hh : host.all plainByte = true) :
    splitHostURI [] (sch ++ strColonSlashSlash ++ host ++ [47] ++ tail) = (sch, host, 47 :: tail) := by
  have hno47 : sch.all (fun c => !(c == 47)) = true :=
    List.all_eq_true.mpr fun x hx => (Bool.and_eq_true _ _ ▸ List.all_eq_true.mp hs x hx).1
  have hhe : host.all (fun c => !isHostEnd c) = true :=
    List.all_eq_true.mpr fun x hx => (Bool.and_eq_true _ _ ▸ List.all_eq_true.mp hh x hx).1
  have e : sch ++ strColonSlashSlash ++ host ++ [47] ++ tail = sch ++ 58 :: 47 :: 47 :: (host ++ 47 :: tail) := by
    simp only [strColonSlashSlash, List.append_assoc, List.cons_append, List.nil_append]
  have hpre : (sch ++ [58]).contains 47 = false := by
    rw [List.contains_eq_any_beq, List.any_append, Bool.or_eq_false_iff]
    refine ⟨?_, rfl⟩
    rw [List.any_eq_false]
    intro x hx
    have := List.all_eq_true.mp hno47 x hx
    rw [Bool.not_eq_true'] at this
    rw [Bool.not_eq_true, BEq.comm]; exact this
  have hstrip : stripTrailingColon (sch ++ [58]) = sch := by
    unfold stripTrailingColon
    rw [List.reverse_append]; exact List.reverse_reverse sch
  obtain ⟨t1, t2⟩ := takeWhile_plain host tail hhe
  unfold splitHostURI
  rw [e, cut_prefix sch _ hno47]
  simp only [hpre, Bool.false_eq_true, if_false, hstrip, t1, t2]

theorem parse_printed (s : PU) (hg : Good s) :
    parseURL (printed s.scheme s.host s.ctl) = .fail {} ∨
    parseURL (printed s.scheme s.host s.ctl) =
      hostResult (lowercaseBytes (if s.scheme.isEmpty then strHTTPb else s.scheme)) s.host false (parseHostLite s.host) := by
  obtain ⟨a1, a2⟩ := no_at_auth s.host hg.host
  unfold parseURL
  refine ite_ind (P := fun r => r = PRes.fail {} ∨ r = _) (Or.inl rfl) ?_
  rw [printed, split_printed _ s.host _ (ite_ind (P := fun b : Bytes => b.all schemeByte = true) (by decide) hg.scheme) hg.host]
  unfold parseSplit
  refine ite_ind (P := fun r => r = PRes.fail {} ∨ r = _) (Or.inl rfl) (Or.inr ?_)
  rw [parseAuthority, a1, a2]; rfl

/-- re-parsing the printed URL of a good state: no userinfo, and on success the same host -/
theorem reparse (s : PU) (hg : Good s) :
    match parseURL (printed s.scheme s.host s.ctl) with
    | .ok p => p.user = false ∧ (s.unk = false → p.host = s.host)
    | .fail _ => True := by
  rcases parse_printed s hg with h | h <;> rw [h]
  · trivial
  · cases hm : parseHostLite s.host with
    | unmodelled => trivial
    | err => trivial
    | ok h =>
      cases parseHostLite_ok hm
      exact ⟨rfl, fun hk => hg.lower hk _ hm⟩

end Fh.Proofs.RedirectURL
