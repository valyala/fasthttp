/-
Helper lemmas for Props/C03 (body operations): the refinement relation between the three body fields of a Response
and the single body of the abstract reading, preserved by every body operation.
-/
import FhVerif.Model.BodyOps

namespace Fh.Proofs.BodyOps
open Fh Fh.Model Fh.Model.BodyOps

/-- `own` records that the current body sits in the buffer (so an append extends it); otherwise the buffer is empty -/
def BodyRel (s : RB) (a : Abs) : Prop :=
  sent s = a.cur ∧ (a.own = true → s.raw = none ∧ s.stream = none) ∧ (a.own = false → s.body = [])

theorem bodyRel_step (s : RB) (a : Abs) (op : Op) (h : BodyRel s a) : BodyRel (step s op) (absStep a op) := by
  obtain ⟨h1, h2, h3⟩ := h
  cases op with
  | app b =>
    -- the buffer is what is sent when the handler owns the body, and empty when not
    cases ho : a.own with
    | true => simp [BodyRel, step, absStep, sent, ho, ← h1, h2 ho]
    | false => simp [BodyRel, step, absStep, sent, ho, h3 ho]
  | _ => simp [BodyRel, step, absStep, sent, resetBody]

theorem bodyRel_run (ops : List Op) (s : RB) (a : Abs) (h : BodyRel s a) : BodyRel (BodyOps.run s ops) (absRun a ops) := by
  induction ops generalizing s a with
  | nil => exact h
  | cons op ops ih => exact ih _ _ (bodyRel_step s a op h)

/-- appends extend a body the handler owns -/
theorem absRun_apps (pieces : List Bytes) (x : Bytes) :
    absRun ⟨x, true⟩ (pieces.map .app) = ⟨x ++ pieces.flatten, true⟩ := by
  induction pieces generalizing x with
  | nil => simp [absRun]
  | cons p ps ih => simpa [absRun, absStep] using ih (x ++ p)

end Fh.Proofs.BodyOps
