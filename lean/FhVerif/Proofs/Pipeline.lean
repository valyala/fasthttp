/-
Proofs about Model/Pipeline.lean: the placement invariant `Inv` (every work item is in at most one place, answered
items are nowhere, written items never return to chW) and the FIFO invariant `FInv` of one connection.  `step_inv`
walks through the events once: what a successful step says about the state it left, then why the state it leads to
has the same `max` and both invariants.
-/
import FhVerif.Model.Pipeline
import FhVerif.Base.Run
namespace Fh.Proofs.Pipeline
open Fh Fh.Model.PL

theorem count_cons' (x h : Nat) (t : List Nat) : List.count x (h :: t) = List.count x t + (if h = x then 1 else 0) := by
  simp [List.count_cons]
theorem count_snoc (x c : Nat) (l : List Nat) : List.count x (l ++ [c]) = List.count x l + (if c = x then 1 else 0) := by
  simp [List.count_append, List.count_cons]

/-- how often work `w` occurs in the pipeline (queues, writer, reader) -/
def cnt (s : State) (w : Nat) : Nat :=
  s.chW.count w + s.chR.count w + (wrHeld s).count w + (rdHeld s).count w

/-- what record `x` of item `w` tells about where `w` is and how its call returned -/
structure WP (s : State) (w : Nat) (x : Work) : Prop where
  pre : x.pc = .sending ∨ x.pc = .doPop ∨ x.pc = .doRetry → cnt s w = 0 ∧ x.written = false ∧ x.done = none
  ans : x.done ≠ none → cnt s w = 0
  wr : x.written = true → s.chW.count w = 0 ∧ s.writer ≠ .took w
  ovf : x.done = some .overflow → x.written = false
  ret : ∀ r, x.pc = .returned r → r = .timeout ∨ x.done = some r
  ddl : x.deadline = true → x.pc ≠ .doPop ∧ x.pc ≠ .doRetry

structure Inv (s : State) : Prop where
  hLoc : ∀ w, cnt s w ≤ 1
  hRange : ∀ w, s.works.length ≤ w → cnt s w = 0
  hWork : ∀ w x, s.works[w]? = some x → WP s w x
  hCapW : s.chW.length ≤ s.max
  hCapR : s.chR.length ≤ s.max
  hDbl : s.dbl = false

theorem inv_init (m : Nat) : Inv (init m) := by
  constructor <;> simp [init, cnt, wrHeld, rdHeld]

variable {s : State}

theorem Inv.done_none (h : Inv s) {w : Nat} {x : Work} (hget : s.works[w]? = some x) (hc : 0 < cnt s w) : x.done = none :=
  Option.eq_none_iff_forall_ne_some.mpr fun _ hd => Nat.ne_of_gt hc ((h.hWork w x hget).ans (hd ▸ nofun))

theorem Inv.valid (h : Inv s) {w : Nat} (hc : 0 < cnt s w) : ∃ x, s.works[w]? = some x := by
  rcases Nat.lt_or_ge w s.works.length with h1 | h1
  · exact ⟨s.works[w], List.getElem?_eq_getElem h1⟩
  · exact absurd (h.hRange w h1) (Nat.ne_of_gt hc)

theorem answer_eq {w : Nat} {x : Work} (r : Res) (hget : s.works[w]? = some x) (hn : x.done = none) :
    answer s w r = { s with works := s.works.set w { x with done := some r } } := by
  simp [answer, hget, hn]

/-- the per-item invariant reads three facts of the pipeline -/
theorem WP.frame {s' : State} {w : Nat} {x : Work} (hp : WP s w x)
    (h1 : cnt s w = 0 → cnt s' w = 0) (h2 : s.chW.count w = 0 → s'.chW.count w = 0)
    (h3 : s'.writer = .took w → s.writer = .took w ∨ 0 < s.chW.count w) : WP s' w x :=
  { hp with
    pre := fun hpc => ⟨h1 (hp.pre hpc).1, (hp.pre hpc).2⟩
    ans := fun hd => h1 (hp.ans hd)
    wr := fun hw => ⟨h2 (hp.wr hw).1, fun ht => (h3 ht).elim (hp.wr hw).2 fun h4 => Nat.ne_of_gt h4 (hp.wr hw).1⟩ }

/-- events that move items through the pipeline (or drop them from it) without touching the records -/
theorem Inv.move (h : Inv s) {s1 : State} (hworks : s1.works = s.works) (hdbl : s1.dbl = s.dbl) (hmax : s1.max = s.max)
    (hcnt : ∀ w, cnt s1 w ≤ cnt s w) (hchW : s1.chW.Sublist s.chW)
    (htook : ∀ w, s1.writer = .took w → s.writer = .took w ∨ 0 < s.chW.count w) (hcR : s1.chR.length ≤ s.max) :
    Inv s1 where
  hLoc w := Nat.le_trans (hcnt w) (h.hLoc w)
  hRange w hw := Nat.le_zero.mp (h.hRange w (hworks ▸ hw) ▸ hcnt w)
  hWork w x hget := (h.hWork w x (hworks ▸ hget)).frame (fun h0 => Nat.le_zero.mp (h0 ▸ hcnt w))
    (fun h0 => Nat.le_zero.mp (h0 ▸ hchW.count_le w)) (htook w)
  hCapW := hmax ▸ Nat.le_trans hchW.length_le h.hCapW
  hCapR := hmax ▸ hcR
  hDbl := hdbl.trans h.hDbl

theorem Inv.setRec (h : Inv s) (w : Nat) {y : Work} (hy : WP s w y) : Inv { s with works := s.works.set w y } :=
  { h with
    hRange := fun w' hw' => h.hRange w' (List.length_set ▸ hw')
    hWork := fun w' x' hget => by
      rw [List.getElem?_set] at hget
      split at hget
      · next e =>
        subst e
        split at hget <;> cases hget
        exact hy.frame id id .inl
      · exact (h.hWork w' x' hget).frame id id .inl }

/-- an item leaves the pipeline and is answered; `overflow` is only for items still waiting in chW -/
theorem Inv.dropAnswer (h : Inv s) {s1 : State} (w : Nat) (r : Res) (hworks : s1.works = s.works) (hdbl : s1.dbl = s.dbl)
    (hmax : s1.max = s.max) (hcnt : ∀ w', cnt s1 w' + (if w = w' then 1 else 0) ≤ cnt s w') (hchW : s1.chW.Sublist s.chW)
    (htook : ∀ w, s1.writer = .took w → s.writer = .took w ∨ 0 < s.chW.count w) (hcR : s1.chR.length ≤ s.max)
    (hov : r = .overflow → 0 < s.chW.count w) : Inv (answer s1 w r) := by
  have hw := hcnt w
  have hl := h.hLoc w
  rw [if_pos rfl] at hw
  have hpos : 0 < cnt s w := by omega
  have ⟨x, hget⟩ := h.valid hpos
  have hp := h.hWork w x hget
  have hn := h.done_none hget hpos
  have h1 := h.move hworks hdbl hmax (fun w' => Nat.le_trans (Nat.le_add_right ..) (hcnt w')) hchW htook hcR
  rw [answer_eq r (hworks ▸ hget) hn]
  exact h1.setRec w { h1.hWork w x (hworks ▸ hget) with
    pre := fun hpc => absurd (hp.pre hpc).1 (Nat.ne_of_gt hpos)
    ans := fun _ => by omega
    -- an item in chW is unwritten
    ovf := fun hd => Bool.eq_false_iff.mpr fun hwr => Nat.ne_of_gt (hov (Option.some.inj hd)) (hp.wr hwr).1
    ret := fun r' hr' => (hp.ret r' hr').elim .inl fun e => nomatch hn.symm.trans e }

theorem Inv.appendRec (h : Inv s) {y : Work} (hy : WP s s.works.length y) : Inv { s with works := s.works ++ [y] } :=
  { h with
    hRange := fun w hw => h.hRange w (by rw [List.length_append] at hw; omega)
    hWork := fun w x hget => by
      rcases Nat.lt_or_ge w s.works.length with hlt | hge
      · exact (h.hWork w x (List.getElem?_append_left hlt ▸ hget)).frame id id .inl
      · have hlen := (List.getElem?_eq_some_iff.mp hget).1
        rw [List.length_append] at hlen
        obtain rfl : w = s.works.length := by simp at hlen; omega
        obtain rfl : y = x := by simpa using hget
        exact hy.frame id id .inl }

theorem Inv.wp_newWork (h : Inv s) (d : Bool) {pc : CallerPc} (hpc : ∀ r, pc ≠ .returned r)
    (hd : d = true → pc ≠ .doPop ∧ pc ≠ .doRetry) : WP s s.works.length (newWork d pc) where
  pre _ := ⟨h.hRange _ (Nat.le_refl _), rfl, rfl⟩
  ans hd := absurd rfl hd
  wr := nofun
  ovf := nofun
  ret r hr := absurd hr (hpc r)
  ddl := hd

theorem Inv.send (h : Inv s) {w : Nat} {x : Work} (hget : s.works[w]? = some x) (hc : cnt s w = 0)
    (hpc : ¬(x.pc = .sending ∨ x.pc = .doPop ∨ x.pc = .doRetry)) (hd : x.done = none) (hw : x.written = false)
    (hroom : s.chW.length < s.max) : Inv { s with chW := s.chW ++ [w] } :=
  have hcnt : ∀ w', cnt { s with chW := s.chW ++ [w] } w' = cnt s w' + if w = w' then 1 else 0 := fun w' => by
    simp only [cnt, wrHeld, rdHeld, count_snoc]; omega
  have other : ∀ {w'}, w ≠ w' → cnt { s with chW := s.chW ++ [w] } w' = cnt s w' := fun e => by rw [hcnt, if_neg e]; rfl
  { h with
    hLoc := fun w' => by
      rw [hcnt]; split
      · next e => rw [← e, hc]; exact Nat.le_refl _
      · exact h.hLoc w'
    hRange := fun w' hw' =>
      (other (Nat.ne_of_lt (Nat.lt_of_lt_of_le (List.getElem?_eq_some_iff.mp hget).1 hw'))).trans (h.hRange w' hw')
    hWork := fun w' x' hget' => by
      by_cases e : w = w'
      · subst e
        cases hget.symm.trans hget'
        exact { h.hWork w x hget with
          pre := fun h0 => absurd h0 hpc
          ans := fun h0 => absurd hd h0
          wr := fun h0 => nomatch hw.symm.trans h0 }
      · exact (h.hWork w' x' hget').frame (fun h0 => (other e).trans h0)
          (fun h0 => by rw [count_snoc, if_neg e]; exact h0) .inl
    hCapW := List.length_append ▸ hroom }

theorem WP.returned {w : Nat} {x : Work} (hp : WP s w x) {r : Res} (hr : r = .timeout ∨ x.done = some r) :
    WP s w { x with pc := .returned r } :=
  { hp with
    pre := nofun
    ret := fun _ e => CallerPc.returned.inj e ▸ hr
    ddl := fun _ => ⟨nofun, nofun⟩ }

/-- a caller that never got its item into chW returns by itself and leaves the answer it returns with in `done` -/
theorem WP.selfAnswer {w : Nat} {x : Work} (hp : WP s w x) (hpre : x.pc = .sending ∨ x.pc = .doPop ∨ x.pc = .doRetry)
    (r : Res) : WP s w { x with pc := .returned r, done := some r } where
  pre := nofun
  ans _ := (hp.pre hpre).1
  wr e := nomatch (hp.pre hpre).2.1.symm.trans e
  ovf _ := (hp.pre hpre).2.1
  ret _ e := .inr (congrArg some (CallerPc.returned.inj e))
  ddl _ := ⟨nofun, nofun⟩

theorem WP.doRetry {w : Nat} {x : Work} (hp : WP s w x) (hpc : x.pc = .doPop) : WP s w { x with pc := .doRetry } :=
  { hp with
    pre := fun _ => hp.pre (.inr (.inl hpc))
    ret := nofun
    ddl := fun hd => absurd hpc (hp.ddl hd).1 }


theorem Inv.call (h : Inv s) (d : Bool) (hc : s.chW.length < s.max) :
    Inv { s with works := s.works ++ [newWork d .waiting], chW := s.chW ++ [s.works.length] } :=
  (h.appendRec (h.wp_newWork d (pc := .waiting) nofun fun _ => ⟨nofun, nofun⟩)).send
    (List.getElem?_concat_length ..) (h.hRange _ (Nat.le_refl _)) nofun rfl rfl hc

theorem Inv.enqueue (h : Inv s) {w : Nat} {x : Work} (hx : s.works[w]? = some x)
    (hp : x.pc = .sending ∨ x.pc = .doRetry) (hc : s.chW.length < s.max) :
    Inv { s with works := s.works.set w { x with pc := .waiting }, chW := s.chW ++ [w] } :=
  have hw := h.hWork w x hx
  have ⟨h0, h1, h2⟩ := hw.pre (hp.imp_right .inr)
  have hy : WP s w { x with pc := .waiting } := { hw with pre := nofun, ret := nofun, ddl := fun _ => ⟨nofun, nofun⟩ }
  (h.setRec w hy).send (List.getElem?_set_self (List.getElem?_eq_some_iff.mp hx).1) h0 nofun h2 h1 hc


/-- While the reader lives, the requests written on the connection are, in order: those answered, the one being read,
    those in chR, the one the writer is pushing, and (once the writer has gone) those it failed to push. -/
structure FInv (s : State) : Prop where
  eq : s.reader ≠ .exited → s.wire = s.answered ++ rdHeld s ++ s.chR ++ wrPush s ++ s.lost
  pre : ∃ rest, s.wire = s.answered ++ rest
  lost : s.writer ≠ .exited → s.lost = []

theorem finv_init (m : Nat) : FInv (init m) := by
  constructor <;> simp [init, rdHeld, wrPush]

/-- what `FInv` looks at, apart from whether the writer has gone -/
def conn (s : State) := (wrPush s, s.reader, s.chR, s.wire, s.answered, s.lost)

theorem FInv.congr {s1 : State} (f : FInv s) (e : conn s1 = conn s) (hx : s1.writer ≠ .exited → s.writer ≠ .exited) :
    FInv s1 := by
  simp only [conn, Prod.mk.injEq] at e
  obtain ⟨h1, h2, h3, h4, h5, h6⟩ := e
  exact ⟨by simpa only [rdHeld, h1, h2, h3, h4, h5, h6] using f.eq, by rw [h4, h5]; exact f.pre,
    fun hw => h6 ▸ f.lost (hx hw)⟩

theorem answer_frame (s : State) (w : Nat) (r : Res) : ∃ W d, answer s w r = { s with works := W, dbl := d } := by
  unfold answer; split <;> (try split) <;> exact ⟨_, _, rfl⟩

theorem answer_max (s : State) (w : Nat) (r : Res) : (answer s w r).max = s.max := by
  obtain ⟨W, d, e⟩ := answer_frame s w r
  rw [e]

theorem FInv.answer {w : Nat} {r : Res} (f : FInv s) : FInv (answer s w r) := by
  obtain ⟨W, d, e⟩ := answer_frame s w r
  rw [e]
  exact f.congr rfl id

/-- a step from `s` to `s'` keeps `max` and each invariant -/
def Keeps (s s' : State) : Prop := s'.max = s.max ∧ (Inv s → Inv s') ∧ (FInv s → FInv s')

theorem Keeps.of_conn {s1 : State} (hm : s1.max = s.max) (hc : conn s1 = conn s)
    (hx : s1.writer ≠ .exited → s.writer ≠ .exited) (hi : Inv s → Inv s1) : Keeps s s1 :=
  ⟨hm, hi, fun f => f.congr hc hx⟩

/-- the writer fails to push the written item it holds (Flush error, or stopCh): the item stays in the sequence, as `lost` -/
theorem writer_gives_up {w : Nat} (hw : s.writer = .push w) (st : Bool) {r : Res} (hr : r ≠ .overflow) :
    Keeps s (answer { s with writer := .exited, stopping := st, lost := s.lost ++ [w], armed := false, buffered := [] } w r) := by
  refine ⟨answer_max .., fun h => ?_, fun f => FInv.answer ?_⟩
  · refine h.dropAnswer w _ rfl rfl rfl (fun w' => ?_) (.refl _) nofun h.hCapR fun e => absurd e hr
    simp only [cnt, wrHeld, rdHeld, hw, count_cons', List.count_nil]; omega
  · have hl := f.lost (hw ▸ nofun)
    exact ⟨fun hr => by simpa only [rdHeld, wrPush, hw, hl, List.append_nil, List.nil_append] using f.eq hr, f.pre, nofun⟩

/-- written: the item is with the writer, so neither in chW nor answered -/
theorem Inv.written (h : Inv s) {w : Nat} {x : Work} (hw : s.writer = .writing w) (hx : s.works[w]? = some x) :
    Inv { s with works := s.works.set w { x with written := true } } := by
  have hp := h.hWork w x hx
  have hl := h.hLoc w
  have hpos : 0 < cnt s w := by simp only [cnt, wrHeld, hw, count_cons', List.count_nil, ↓reduceIte]; omega
  have hdn := h.done_none hx hpos
  exact h.setRec w { hp with
    pre := fun hpc => absurd (hp.pre hpc).1 (Nat.ne_of_gt hpos)
    ans := fun hd => absurd hdn hd
    wr := fun _ => ⟨by simp only [cnt, wrHeld, rdHeld, hw, count_cons', List.count_nil, ↓reduceIte] at hl ⊢; omega, hw ▸ nofun⟩
    ovf := fun hd => nomatch hdn.symm.trans hd }

theorem step_inv {s' : State} {e : Event} (hs : step s e = some s') : Keeps s s' := by
  -- on a state taken apart `step`'s matches compute
  cases s
  cases e <;> dsimp only [step] at hs
  case callDeadline =>
    rcases of_ite hs with ⟨hc, hs⟩ | ⟨_, hs⟩ <;> cases hs
    · exact .of_conn rfl rfl id fun h => h.call true hc
    · exact .of_conn rfl rfl id fun h => h.appendRec (h.wp_newWork true nofun fun _ => ⟨nofun, nofun⟩)
  case callDo =>
    rcases of_ite hs with ⟨hc, hs⟩ | ⟨_, hs⟩ <;> cases hs
    · exact .of_conn rfl rfl id fun h => h.call false hc
    · exact .of_conn rfl rfl id fun h => h.appendRec (h.wp_newWork false nofun nofun)
  case sendBlocked w =>
    split at hs
    · next x hx =>
      obtain ⟨hp, rfl⟩ := of_guard hs
      exact .of_conn rfl rfl id fun h => h.enqueue hx (.inl hp.1) hp.2
    · cases hs
  case doPop w =>
    split at hs
    · next x hx =>
      obtain ⟨hp, hs⟩ := Option.ite_none_right_eq_some.mp hs
      split at hs <;> cases hs
      · exact .of_conn rfl rfl id fun h => h.setRec w ((h.hWork w x hx).doRetry hp)
      · next hd t =>
        -- the oldest item of chW is answered with overflow
        refine ⟨answer_max .., fun h => ?_, fun f => FInv.answer (f.congr rfl id)⟩
        refine (h.setRec w ((h.hWork w x hx).doRetry hp)).dropAnswer hd .overflow rfl rfl rfl (fun w' => ?_)
          (List.sublist_cons_self hd t) (fun _ => .inl) h.hCapR fun _ => ?_
        · simp only [cnt, wrHeld, rdHeld, count_cons']; omega
        · simp only [count_cons', ↓reduceIte]; omega
    · cases hs
  case doRetry w =>
    split at hs
    · next x hx =>
      obtain ⟨hp, hs⟩ := Option.ite_none_right_eq_some.mp hs
      rcases of_ite hs with ⟨hc, hs⟩ | ⟨_, hs⟩ <;> cases hs
      · exact .of_conn rfl rfl id fun h => h.enqueue hx (.inr hp) hc
      · exact .of_conn rfl rfl id fun h => h.setRec w ((h.hWork w x hx).selfAnswer (.inr (.inr hp)) _)
    · cases hs
  case timerFired w =>
    split at hs
    · next x hx =>
      obtain ⟨_, rfl⟩ := of_guard hs
      exact .of_conn rfl rfl id fun h => h.setRec w { h.hWork w x hx with }
    · cases hs
  case deadlinePassed w =>
    split at hs
    · next x hx =>
      obtain ⟨_, rfl⟩ := of_guard hs
      exact .of_conn rfl rfl id fun h => h.setRec w { h.hWork w x hx with }
    · cases hs
  case returnTimeout w =>
    split at hs
    · next x hx =>
      obtain ⟨_, hs⟩ := Option.ite_none_right_eq_some.mp hs
      rcases of_ite hs with ⟨hp, hs⟩ | ⟨_, hs⟩
      · cases hs
        exact .of_conn rfl rfl id fun h => h.setRec w ((h.hWork w x hx).selfAnswer (.inl hp) _)
      · obtain ⟨_, rfl⟩ := of_guard hs
        exact .of_conn rfl rfl id fun h => h.setRec w ((h.hWork w x hx).returned (.inl rfl))
    · cases hs
  case returnDone w =>
    split at hs
    · next x hx =>
      obtain ⟨_, hs⟩ := Option.ite_none_right_eq_some.mp hs
      split at hs <;> cases hs
      next r hr => exact .of_conn rfl rfl id fun h => h.setRec w ((h.hWork w x hx).returned (.inr hr))
    · cases hs
  case writerTake =>
    split at hs <;> cases hs
    next hd t =>
    refine .of_conn rfl rfl nofun fun h => ?_
    refine h.move rfl rfl rfl (fun w' => ?_) (List.sublist_cons_self hd t) (fun w' e => .inr ?_) h.hCapR
    · simp only [cnt, wrHeld, rdHeld, count_cons', List.count_nil]; omega
    · cases e; simp only [count_cons', ↓reduceIte]; omega
  case writerExpire =>
    split at hs
    · next w =>
      split at hs
      · next x hx =>
        obtain ⟨_, rfl⟩ := of_guard hs
        refine ⟨answer_max .., fun h => ?_, fun f => FInv.answer (f.congr rfl nofun)⟩
        refine h.dropAnswer w _ rfl rfl rfl (fun w' => ?_) (.refl _) nofun h.hCapR nofun
        simp only [cnt, wrHeld, rdHeld, count_cons', List.count_nil]; omega
      · cases hs
    · cases hs
  case writerBegin =>
    split at hs
    · next w =>
      split at hs
      · next x hx =>
        rcases of_ite hs with ⟨_, hs⟩ | ⟨_, hs⟩ <;> cases hs
        exact .of_conn rfl rfl nofun fun h => h.move rfl rfl rfl (fun _ => Nat.le_refl _) (.refl _) nofun h.hCapR
      · cases hs
    · cases hs
  case writerWrite =>
    split at hs
    · next w =>
      split at hs <;> cases hs
      next x hx =>
      refine ⟨rfl, fun h => (h.written rfl hx).move rfl rfl rfl (fun _ => Nat.le_refl _) (.refl _) nofun h.hCapR, fun f => ?_⟩
      -- the request goes onto the wire and into the writer's hands at once
      cases f.lost nofun
      refine ⟨fun hr => ?_, f.pre.elim fun rest e => ⟨rest ++ [w], (congrArg (· ++ [w]) e).trans (List.append_assoc ..)⟩, fun _ => rfl⟩
      have := f.eq hr
      simp only [rdHeld, wrPush, List.append_nil] at this ⊢
      rw [this]
    · cases hs
  case writerWriteFail =>
    split at hs <;> cases hs
    next w =>
    refine ⟨answer_max .., fun h => ?_, fun f => FInv.answer (f.congr rfl nofun)⟩
    refine h.dropAnswer w _ rfl rfl rfl (fun w' => ?_) (.refl _) nofun h.hCapR nofun
    simp only [cnt, wrHeld, rdHeld, count_cons', List.count_nil]; omega
  case writerPush =>
    split at hs
    · next w =>
      obtain ⟨hc, rfl⟩ := of_guard hs
      refine ⟨rfl, fun h => ?_, fun f => ⟨fun hr => ?_, f.pre, fun _ => f.lost nofun⟩⟩
      · refine h.move rfl rfl rfl (fun w' => ?_) (.refl _) nofun ?_
        · simp only [cnt, wrHeld, rdHeld, count_snoc, count_cons', List.count_nil]; omega
        · simp only [List.length_append, List.length_cons, List.length_nil]; omega
      · simpa only [rdHeld, wrPush, List.append_assoc, List.append_nil, List.nil_append] using f.eq hr
    · cases hs
  case writerPushFail =>
    split at hs <;> cases hs
    next w => exact writer_gives_up rfl _ nofun
  case writerStop =>
    obtain ⟨hst, hs⟩ := Option.ite_none_right_eq_some.mp hs
    split at hs <;> cases hs
    · exact .of_conn rfl rfl nofun fun h => h.move rfl rfl rfl (fun _ => Nat.le_refl _) (.refl _) nofun h.hCapR
    · next w => exact writer_gives_up rfl _ nofun
  case writerIdleExit =>
    split at hs <;> cases hs
    exact .of_conn rfl rfl nofun fun h => h.move rfl rfl rfl (fun _ => Nat.le_refl _) (.refl _) nofun h.hCapR
  case writerFlush =>
    obtain ⟨_, hs⟩ := Option.ite_none_right_eq_some.mp hs
    -- both places where the writer can flush lead to the same state
    split at hs <;> cases hs
    all_goals exact .of_conn rfl rfl id fun h => h.move rfl rfl rfl (fun _ => Nat.le_refl _) (.refl _) (fun _ => .inl) h.hCapR
  case readerTake =>
    split at hs <;> cases hs
    next hd t =>
    refine ⟨rfl, fun h => ?_, fun f => ⟨fun _ => ?_, f.pre, f.lost⟩⟩
    · refine h.move rfl rfl rfl (fun w' => ?_) (.refl _) (fun _ => .inl) ?_
      · simp only [cnt, wrHeld, rdHeld, count_cons', List.count_nil]; omega
      · have := h.hCapR; simp only [List.length_cons] at this ⊢; omega
    · simpa only [rdHeld, wrPush, List.append_nil, List.append_assoc, List.cons_append, List.nil_append]
        using f.eq nofun
  case readerOk =>
    split at hs <;> cases hs
    next w =>
    refine ⟨answer_max .., fun h => ?_, fun f => FInv.answer ?_⟩
    · refine h.dropAnswer w _ rfl rfl rfl (fun w' => ?_) (.refl _) (fun _ => .inl) h.hCapR nofun
      simp only [cnt, wrHeld, rdHeld, count_cons', List.count_nil]; omega
    · -- the item read moves from the reader's hands to `answered`
      have := f.eq nofun
      simp only [rdHeld, wrPush, List.append_assoc, List.cons_append, List.nil_append] at this
      exact ⟨fun _ => by simpa only [rdHeld, wrPush, List.append_assoc, List.cons_append, List.nil_append] using this,
        ⟨_, by rw [this, List.append_assoc]; rfl⟩, f.lost⟩
  case readerFail =>
    split at hs <;> cases hs
    next w =>
    refine ⟨answer_max .., fun h => ?_, fun f => FInv.answer ⟨nofun, f.pre, f.lost⟩⟩
    refine h.dropAnswer w _ rfl rfl rfl (fun w' => ?_) (.refl _) (fun _ => .inl) h.hCapR nofun
    simp only [cnt, wrHeld, rdHeld, count_cons', List.count_nil]; omega
  case readerStop =>
    obtain ⟨_, hs⟩ := Option.ite_none_right_eq_some.mp hs
    split at hs <;> cases hs
    exact ⟨rfl, fun h => h.move rfl rfl rfl (fun _ => Nat.le_refl _) (.refl _) (fun _ => .inl) h.hCapR,
      fun f => ⟨nofun, f.pre, f.lost⟩⟩
  case drainOne =>
    split at hs <;> cases hs
    next hd t =>
    refine ⟨answer_max .., fun h => ?_, fun f => FInv.answer ⟨nofun, f.pre, f.lost⟩⟩
    refine h.dropAnswer hd _ rfl rfl rfl (fun w' => ?_) (.refl _) (fun _ => .inl) ?_ nofun
    · simp only [cnt, wrHeld, rdHeld, count_cons']; omega
    · have := h.hCapR; simp only [List.length_cons] at this ⊢; omega
  case restart =>
    split at hs <;> cases hs
    exact ⟨rfl, fun h => h.move rfl rfl rfl (fun _ => Nat.le_refl _) (.refl _) nofun h.hCapR,
      fun _ => ⟨fun _ => rfl, ⟨[], rfl⟩, fun _ => rfl⟩⟩

theorem run_eq_iter (s : State) (evs : List Event) : run s evs = iter step s evs := by
  induction evs generalizing s with
  | nil => rfl
  | cons e es ih => simp only [run, iter, ih]

theorem reach {m : Nat} {evs : List Event} {s : State} (hr : run (init m) evs = some s) : s.max = m ∧ Inv s ∧ FInv s :=
  Iter.inv (P := fun t => t.max = m ∧ Inv t ∧ FInv t)
    (fun _ _ _ ⟨h0, h1, h2⟩ hs => have ⟨k0, k1, k2⟩ := step_inv hs; ⟨k0.trans h0, k1 h1, k2 h2⟩)
    ⟨rfl, inv_init m, finv_init m⟩ (run_eq_iter _ evs ▸ hr)
end Fh.Proofs.Pipeline
