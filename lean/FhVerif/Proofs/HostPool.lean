/-
The two-stage wantConnQueue refines a FIFO list; the accounting invariant of the pool is preserved by every event.
The invariant speaks of `slots` (what `connsCount` stands for) and `held` (in how many places a connection is).  Inside
an event a goroutine has connections and slots in its hands that are in no place of the state (`InvK fl k`): an event
is a chain of steps that take something into the hands or put it down, and it ends with empty hands.
-/
import FhVerif.Model.HostPool
import FhVerif.Base.Run

namespace Fh.Proofs.HostPool
open Fh.Model.HP

theorem abs_pushBack (q : WQ) (w : Nat) : (q.pushBack w).abs = q.abs ++ [w] := by
  simp [WQ.abs, WQ.pushBack, List.append_assoc]

theorem wf_pushBack (q : WQ) (w : Nat) (h : q.wf) : (q.pushBack w).wf := by
  simpa [WQ.wf, WQ.pushBack] using h

theorem wf_empty : WQ.empty.wf := by simp [WQ.wf, WQ.empty]

theorem len_refines (q : WQ) : q.len = q.abs.length := by
  simp [WQ.len, WQ.abs]

theorem popFront_refines (q : WQ) (h : q.wf) :
    q.popFront.1 = q.abs.head? ∧ q.popFront.2.abs = q.abs.tail ∧ q.popFront.2.wf := by
  unfold WQ.popFront
  by_cases hp : q.headPos ≥ q.head.length
  · have hd : q.head.drop q.headPos = [] := List.drop_eq_nil_of_le hp
    rw [if_pos hp]
    cases ht : q.tail with
    | nil => simp [WQ.abs, hd, ht]; exact h
    | cons t ts => simp [WQ.abs, hd, ht, WQ.wf]
  · rw [if_neg hp]
    have hlt : q.headPos < q.head.length := by omega
    refine ⟨?_, ?_, ?_⟩
    · simp [WQ.abs, List.head?_append, List.head?_drop, hlt]
    · simp only [WQ.abs]
      have : List.drop q.headPos q.head ≠ [] := by simp; omega
      rw [List.tail_append_of_ne_nil this, List.tail_drop]
    · simp [WQ.wf]; omega

theorem peekFront_refines (q : WQ) (_h : q.wf) : q.peekFront = q.abs.head? := by
  unfold WQ.peekFront
  by_cases hp : q.headPos < q.head.length
  · simp [hp, WQ.abs, List.head?_append, List.head?_drop]
  · have hd : q.head.drop q.headPos = [] := List.drop_eq_nil_of_le (by omega)
    simp [hp, WQ.abs, hd]

theorem clearFront_refines (p : Nat → Bool) (fuel : Nat) (q : WQ) (h : q.wf) (hf : q.abs.length ≤ fuel) :
    (WQ.clearFront p fuel q).abs = q.abs.dropWhile (fun w => !p w) ∧ (WQ.clearFront p fuel q).wf := by
  fun_induction WQ.clearFront p fuel q with
  | case1 => simp [List.eq_nil_of_length_eq_zero (Nat.le_zero.mp hf), h]
  | case2 _ q hpk =>
    rw [peekFront_refines q h] at hpk
    simp [List.head?_eq_none_iff.mp hpk, h]
  | case3 _ q w hpk hp =>
    rw [peekFront_refines q h] at hpk
    obtain ⟨t, hq⟩ := List.head?_eq_some_iff.mp hpk
    simp [hq, hp, h]
  | case4 _ q w hpk hp ih =>
    rw [peekFront_refines q h] at hpk
    obtain ⟨t, hq⟩ := List.head?_eq_some_iff.mp hpk
    obtain ⟨-, h2, h3⟩ := popFront_refines q h
    simpa [hq, hp, h2] using ih h3 (by rw [hq] at hf; rw [h2, hq]; exact Nat.le_of_succ_le_succ hf)

theorem popFront_some {q q' : WQ} {w : Nat} (h : q.wf) (hp : q.popFront = (some w, q')) :
    q.abs = w :: q'.abs ∧ q'.wf := by
  obtain ⟨h1, h2, h3⟩ := popFront_refines q h
  rw [hp] at h1 h2 h3
  obtain ⟨t, ht⟩ := List.head?_eq_some_iff.mp h1.symm
  exact ⟨by rw [h2, ht]; rfl, h3⟩

theorem popWaiting_refines (p : Nat → Bool) (fuel : Nat) (q : WQ) (h : q.wf) (hf : q.abs.length ≤ fuel) :
    (WQ.popWaiting p fuel q).1 = q.abs.find? p ∧
    (WQ.popWaiting p fuel q).2.abs = (q.abs.dropWhile (fun w => !p w)).tail ∧ (WQ.popWaiting p fuel q).2.wf := by
  fun_induction WQ.popWaiting p fuel q with
  | case1 => simp [List.eq_nil_of_length_eq_zero (Nat.le_zero.mp hf), h]
  | case2 _ _ hl => simp [List.eq_nil_of_length_eq_zero (len_refines _ ▸ hl), h]
  | case3 _ _ _ _ _ hpop hp =>
    obtain ⟨hq, hwf⟩ := popFront_some h hpop
    simp [hq, hp, hwf]
  | case4 _ _ _ _ _ hpop hp ih =>
    obtain ⟨hq, hwf⟩ := popFront_some h hpop
    simpa [hq, hp] using ih hwf (Nat.le_of_succ_le_succ (by simpa [hq] using hf))
  | case5 _ q hl _ hpop =>
    -- a queue that is not empty pops something
    have h1 := (popFront_refines q h).1
    rw [hpop] at h1
    rw [len_refines, List.head?_eq_none_iff.mp h1.symm] at hl
    exact absurd rfl hl

theorem popWaiting_some (p : Nat → Bool) (fuel : Nat) (q : WQ) (w : Nat) (q' : WQ)
    (h : WQ.popWaiting p fuel q = (some w, q')) : p w = true := by
  fun_induction WQ.popWaiting p fuel q with
  | case3 _ _ _ _ _ _ hp => cases h; exact hp
  | case4 _ _ _ _ _ _ _ ih => exact ih h
  | _ => cases h

/-! ## why ReleaseConn's loop is one event

`w.waiting()` and `w.tryDeliver(cc, nil)` are two steps: the waiter's `cancel` (it only needs `w.mu`) can slip in
between.  `popDeliver` is the loop as written: `check` is what `w.waiting()` saw, `deliver w` whether `tryDeliver` then
succeeded; a waiter can stop waiting in between, never start again.  Because a failed delivery goes on with the next
waiter, the loop equals the atomic loop evaluated at delivery time: the cancel might as well have come first. -/

def popDeliver (check deliver : Nat → Bool) : Nat → WQ → Option Nat × WQ
  | 0, q => (none, q)
  | fuel + 1, q =>
    if q.len = 0 then (none, q)
    else
      match q.popFront with
      | (some w, q') =>
        if check w then (if deliver w then (some w, q') else popDeliver check deliver fuel q')
        else popDeliver check deliver fuel q'
      | (none, q') => (none, q')

theorem popDeliver_eq_popWaiting (check deliver : Nat → Bool) (h : ∀ w, deliver w = true → check w = true)
    (fuel : Nat) (q : WQ) : popDeliver check deliver fuel q = WQ.popWaiting deliver fuel q := by
  fun_induction popDeliver check deliver fuel q with
  | case5 _ _ _ w _ _ hc ih =>
    -- not seen waiting, so not delivered to: both loops go on
    have hd : deliver w = false := Bool.eq_false_iff.mpr fun hd => hc (h w hd)
    simp [WQ.popWaiting, *]
  | _ => simp [WQ.popWaiting, *]

/-- the loop that gives up after the first failed delivery (`w.tryDeliver(cc, nil); return`) -/
def popDeliverNoRetry (check deliver : Nat → Bool) : Nat → WQ → Option Nat × WQ × Bool
  | 0, q => (none, q, false)
  | fuel + 1, q =>
    if q.len = 0 then (none, q, false)
    else
      match q.popFront with
      | (some w, q') =>
        if check w then (if deliver w then (some w, q', false) else (none, q', true))   -- true: returned without idle
        else popDeliverNoRetry check deliver fuel q'
      | (none, q') => (none, q', false)

/-- which (record, caller) combinations occur -/
def WOk : Waiter → Bool
  | ⟨.waiting, .toEnqueue⟩ | ⟨.waiting, .parked⟩ | ⟨.waiting, .timedOut⟩ => true
  | ⟨.delivered _, .toEnqueue⟩ | ⟨.delivered _, .parked⟩ | ⟨.delivered _, .timedOut⟩ => true
  | ⟨.failed, .toEnqueue⟩ | ⟨.failed, .parked⟩ | ⟨.failed, .timedOut⟩ => true
  | ⟨.failed, .done .dialErr⟩ | ⟨.failed, .done .noFree⟩ => true
  | ⟨.cancelled, .done .noFree⟩ => true
  | ⟨.taken, .done (.conn _)⟩ => true
  | _ => false

/-- what `connsCount` stands for: idle and lent connections, dials under way, connections parked in a wantConn -/
def slots (s : State) : Nat := s.idle.length + s.inUse.length + dialing s + deliveredN s

/-- in how many places connection `c` is -/
def held (s : State) (c : Nat) : Nat := s.idle.count c + s.inUse.count c + deliveredCnt s c

/-- the accounting invariant inside an event: the acting goroutine has the connections `fl` and `k` slots in hand,
    taken out of one place of the state and not yet put into the next -/
structure InvK (fl : List Nat) (k : Int) (s : State) : Prop where
  hCount : s.connsCount = ((slots s + fl.length : Nat) : Int) + k
  hMax : s.connsCount ≤ (s.maxConns : Int)
  hUniq : ∀ c, held s c + fl.count c ≤ 1
  hFresh : ∀ c, s.nextConn ≤ c → held s c + fl.count c = 0
  hW : ∀ w ∈ s.waiters, WOk w = true

abbrev Inv (s : State) : Prop := InvK [] 0 s

theorem inv_init (m : Nat) (w f : Bool) : Inv (init m w f) := by
  constructor <;> simp [init, slots, held, dialing, deliveredN, deliveredCnt]

/-- no new connection: state and hands together hold each connection at most as often as before, and as many slots -/
theorem InvK.move {fl fl' : List Nat} {k k' : Int} {s s' : State} (h : InvK fl k s) (hc : s'.connsCount = s.connsCount)
    (hm : s'.maxConns = s.maxConns) (hn : s'.nextConn = s.nextConn)
    (hs : ((slots s' + fl'.length : Nat) : Int) + k' = ((slots s + fl.length : Nat) : Int) + k)
    (hh : ∀ c, held s' c + fl'.count c ≤ held s c + fl.count c) (hw : ∀ w ∈ s'.waiters, WOk w = true) : InvK fl' k' s' :=
  ⟨by rw [hc, hs]; exact h.hCount, by rw [hc, hm]; exact h.hMax, fun c => Nat.le_trans (hh c) (h.hUniq c),
    fun c hc' => Nat.le_zero.mp (h.hFresh c (hn ▸ hc') ▸ hh c), hw⟩

theorem count_snoc (x c : Nat) (l : List Nat) : List.count x (l ++ [c]) = List.count x l + (if c = x then 1 else 0) := by
  simp [List.count_append, List.count_cons]

/-- finish a per-connection counting goal: split on `c = x`, normalise, `omega` -/
macro "fin_cnt " c:term ", " x:term : tactic =>
  `(tactic| (by_cases hxc : $c = $x <;>
      simp only [hxc, ↓reduceIte, deliveredCnt, count_snoc] at * <;> omega))

theorem count_one (x c : Nat) : List.count x [c] = if c = x then 1 else 0 := by
  simpa using count_snoc x c []

theorem mem_lt_next (s : State) (h : Inv s) (c : Nat) (hm : c ∈ s.inUse) : c < s.nextConn := by
  refine Nat.lt_of_not_le fun h1 => ?_
  have := h.hFresh c h1
  have : 0 < List.count c s.inUse := List.count_pos_iff.mpr hm
  simp only [held] at *; omega

theorem InvK.takeInUse {k : Int} {s : State} {c : Nat} (h : InvK [] k s) (hm : c ∈ s.inUse) :
    InvK [c] k { s with inUse := s.inUse.erase c } := by
  have hp := List.perm_cons_erase hm
  refine h.move rfl rfl rfl ?_ (fun x => ?_) h.hW
  · have := hp.length_eq
    simp only [slots, dialing, deliveredN, List.length_cons, List.length_nil] at *; omega
  · have := hp.count_eq x
    simp only [held, deliveredCnt, List.count_cons, List.count_nil] at *; omega

/-- `m` leaves the idle list from either end and `d` stays -/
theorem InvK.takeIdle {k : Int} {s : State} {d m : List Nat} (h : InvK [] k s) (hp : (m ++ d).Perm s.idle) :
    InvK m k { s with idle := d } := by
  refine h.move rfl rfl rfl ?_ (fun x => ?_) h.hW
  · have := hp.length_eq
    simp only [slots, dialing, deliveredN, List.length_append, List.length_nil] at *; omega
  · have := hp.count_eq x
    simp only [held, deliveredCnt, List.count_append, List.count_nil] at *; omega

theorem InvK.putInUse {fl : List Nat} {k : Int} {s : State} (h : InvK fl k s) :
    InvK [] k { s with inUse := s.inUse ++ fl } :=
  h.move rfl rfl rfl (by simp only [slots, dialing, deliveredN, List.length_append, List.length_nil]; omega)
    (fun x => by simp only [held, deliveredCnt, List.count_append, List.count_nil]; omega) h.hW

theorem InvK.putIdle {fl : List Nat} {k : Int} {s : State} (h : InvK fl k s) :
    InvK [] k { s with idle := s.idle ++ fl } :=
  h.move rfl rfl rfl (by simp only [slots, dialing, deliveredN, List.length_append, List.length_nil]; omega)
    (fun x => by simp only [held, deliveredCnt, List.count_append, List.count_nil]; omega) h.hW

/-- a dial succeeded: the slot in hand becomes the connection `s.nextConn`, which was nowhere -/
theorem InvK.fresh {s : State} (h : InvK [] 1 s) : InvK [s.nextConn] 0 { s with nextConn := s.nextConn + 1 } := by
  refine ⟨?_, h.hMax, fun c => ?_, fun c hc => ?_, h.hW⟩
  · have := h.hCount
    simp only [slots, dialing, deliveredN, List.length_cons, List.length_nil] at *; omega
  · have h1 := h.hUniq c
    have h2 := h.hFresh c
    simp only [held, count_one, List.count_nil] at *; fin_cnt s.nextConn, c
  · have h2 := h.hFresh c (Nat.le_of_succ_le hc)
    simp only [held, count_one, List.count_nil] at *; fin_cnt s.nextConn, c

/-- the connection in hand is closed: its slot stays in hand -/
theorem InvK.drop {c : Nat} {s : State} (h : InvK [c] 0 s) : InvK [] 1 s :=
  h.move rfl rfl rfl (by simp only [List.length_cons, List.length_nil]; omega)
    (fun x => by simp only [List.count_nil]; omega) h.hW

theorem countP_set' {α : Type} (l : List α) (i : Nat) (x old : α) (h : l[i]? = some old) (p : α → Bool) :
    (l.set i x).countP p + (if p old = true then 1 else 0) = l.countP p + (if p x = true then 1 else 0) := by
  obtain ⟨hi, hget⟩ := List.getElem?_eq_some_iff.mp h
  rw [List.countP_set hi, hget]
  by_cases hp : p old = true
  · have : 0 < l.countP p := List.countP_pos_iff.mpr ⟨old, List.mem_of_getElem? h, hp⟩
    simp only [hp, ↓reduceIte]; omega
  · simp [hp]

/-- the connection parked in a record -/
def conn : WSt → List Nat
  | .delivered c => [c]
  | _ => []

theorem conn_length (st : WSt) : (if st.isDelivered = true then 1 else 0) = (conn st).length := by
  cases st <;> rfl

theorem conn_count (st : WSt) (y : Nat) : (if (st == .delivered y) = true then 1 else 0) = (conn st).count y := by
  cases st <;> simp [conn, List.count_singleton]

theorem wok_set (l : List Waiter) (w : Nat) (x : Waiter) (hl : ∀ a ∈ l, WOk a = true) (hx : WOk x = true) :
    ∀ a ∈ l.set w x, WOk a = true := by
  intro a ha
  rcases List.mem_or_eq_of_mem_set ha with h | rfl
  · exact hl a h
  · exact hx

/-- as long as the caller has not returned, where it is makes no difference to which records are admissible -/
theorem wok_pc (st : WSt) : WOk ⟨st, .toEnqueue⟩ = WOk ⟨st, .parked⟩ ∧ WOk ⟨st, .parked⟩ = WOk ⟨st, .timedOut⟩ := by
  cases st <;> exact ⟨rfl, rfl⟩

/-- the record of waiter `w` (`old`) is replaced by `x`: what the two hold passes between the record and the hands -/
theorem InvK.setW {fl fl' : List Nat} {k : Int} {s : State} {w : Nat} {old x : Waiter} (h : InvK fl k s)
    (hget : s.waiters[w]? = some old) (hok : WOk x = true) (hc : conn x.st ++ fl' = conn old.st ++ fl) :
    InvK fl' k (setW s w x) := by
  refine h.move rfl rfl rfl ?_ (fun y => ?_) (wok_set _ _ _ h.hW hok)
  · have h1 := countP_set' s.waiters w x old hget (fun w => w.st.isDelivered)
    have h2 := congrArg List.length hc
    simp only [conn_length, List.length_append] at h1 h2
    simp only [slots, Model.HP.setW, dialing, deliveredN]; omega
  · have h1 := countP_set' s.waiters w x old hget (fun w => w.st == .delivered y)
    have h2 := congrArg (List.count y) hc
    simp only [conn_count, List.count_append] at h1 h2
    simp only [held, Model.HP.setW, deliveredCnt]; omega

/-- a waiter that still waits gets its answer, wherever its caller is: the connection in hand, or a dial error -/
theorem InvK.answer {fl : List Nat} {k : Int} {s : State} {w : Nat} {st : WSt} (h : InvK fl k s)
    (hw : isWaiting s w = true) (hst : (∃ c, st = .delivered c) ∨ st = .failed) (hc : conn st = fl) :
    InvK [] k (setSt s w st) := by
  unfold isWaiting at hw
  unfold setSt
  split at hw
  · rename_i wt hget
    rcases wt with ⟨st0, pc⟩
    cases of_decide_eq_true hw
    have hok : WOk ⟨st, pc⟩ = true := by
      have := h.hW _ (List.mem_of_getElem? hget)
      rcases hst with ⟨c, rfl⟩ | rfl <;> cases pc <;> first | rfl | cases this
    simp only
    exact h.setW hget hok (by rw [List.append_nil]; exact hc)
  · cases hw

theorem InvK.queue {fl : List Nat} {k : Int} {s : State} (h : InvK fl k s) (q : WQ) : InvK fl k { s with queue := q } :=
  ⟨h.hCount, h.hMax, h.hUniq, h.hFresh, h.hW⟩

theorem decConns_inv (s : State) (h : InvK [] 1 s) : Inv (decConns s) := by
  have hC := h.hCount
  have hM := h.hMax
  unfold decConns
  -- the slot in hand goes to a waiter's dial (`forDials` grows, the counter stays), or the counter goes down
  have dec : ∀ q, Inv { s with queue := q, connsCount := s.connsCount - 1 } := fun _ =>
    ⟨show s.connsCount - 1 = ((slots s + 0 : Nat) : Int) + 0 by simp only [List.length_nil] at hC; omega,
      show s.connsCount - 1 ≤ (s.maxConns : Int) by omega, h.hUniq, h.hFresh, h.hW⟩
  split
  · split
    · exact h.move rfl rfl rfl
        (by simp only [slots, dialing, deliveredN, List.length_append, List.length_singleton]; omega)
        (fun _ => Nat.le_refl _) h.hW
    · exact dec _
  · exact dec _

theorem acquire_inv (s : State) (h : Inv s) : Inv (stepAcquire s) := by
  unfold stepAcquire
  split
  · split
    · exact ⟨by have := h.hCount; simp only [slots, dialing, deliveredN] at this ⊢; omega, by simp only; omega,
        h.hUniq, h.hFresh, h.hW⟩
    · split
      · refine h.move rfl rfl rfl ?_ (fun c => ?_) ?_
        · simp [slots, dialing, deliveredN, List.countP_append, WSt.isDelivered]
        · simp [held, deliveredCnt, List.countP_append]
        · intro w hw
          rcases List.mem_append.mp hw with hw | hw
          · exact h.hW w hw
          · cases List.mem_singleton.mp hw; rfl
      · exact ⟨h.hCount, h.hMax, h.hUniq, h.hFresh, h.hW⟩
  · rename_i c rest hi
    split
    · exact (h.takeIdle (m := [c]) (by rw [hi]; rfl)).putInUse
    · refine (h.takeIdle (d := (c :: rest).dropLast) (List.perm_append_comm.trans ?_)).putInUse
      rw [hi, List.getLast?_eq_some_getLast (List.cons_ne_nil c rest), Option.getD_some, List.dropLast_concat_getLast]

theorem release_inv (s : State) (h : Inv s) (c : Nat) (hm : c ∈ s.inUse) :
    Inv (releaseTo { s with inUse := s.inUse.erase c } c) := by
  have h1 := h.takeInUse hm
  unfold releaseTo
  split
  · split
    · rename_i w q hp
      exact (h1.queue q).answer (popWaiting_some _ _ _ _ _ hp) (.inl ⟨_, rfl⟩) rfl
    · rename_i q _
      exact (h1.queue q).putIdle
  · exact h1.putIdle

theorem step_inv {s s' : State} {e : Event} (h : Inv s) (hs : step s e = some s') : Inv s' := by
  -- a dial is over: its slot is in the hands of the goroutine that made it
  have own : 0 < s.ownDials → InvK [] 1 { s with ownDials := s.ownDials - 1 } := fun hd =>
    h.move rfl rfl rfl (by simp only [slots, dialing, deliveredN]; omega) (fun _ => Nat.le_refl _) h.hW
  have forW : ∀ w, w ∈ s.forDials → InvK [] 1 { s with forDials := s.forDials.erase w } := fun w hm => by
    have hlen := List.length_erase_of_mem hm
    have hpos : 0 < s.forDials.length := List.length_pos_of_mem hm
    exact h.move rfl rfl rfl (by simp only [slots, dialing, deliveredN, hlen]; omega) (fun _ => Nat.le_refl _) h.hW
  cases e <;> simp only [step, stepEnqueue, stepDialOkFor, stepDialFailFor, stepWaiterReturn, stepWaiterTimeout,
    stepCancel, stepCleaner] at hs
  case acquire => cases hs; exact acquire_inv s h
  case enqueue w =>
    split at hs <;> cases hs
    rename_i st hget
    -- the queue is not part of the invariant
    exact (h.setW (x := ⟨st, .parked⟩) hget ((wok_pc st).1 ▸ h.hW _ (List.mem_of_getElem? hget)) rfl).queue _
  case waiterTimeout w =>
    split at hs <;> cases hs
    rename_i st hget
    exact h.setW hget ((wok_pc st).2 ▸ h.hW _ (List.mem_of_getElem? hget)) rfl
  case waiterReturn w =>
    split at hs <;> cases hs <;> rename_i hget
    · exact .putInUse (h.setW hget rfl rfl)
    · exact h.setW hget rfl rfl
  case cancel w =>
    split at hs <;> cases hs <;> rename_i hget
    · exact .putInUse (h.setW hget rfl rfl)
    · exact h.setW hget rfl rfl
    · exact h.setW hget rfl rfl
  case cleaner k =>
    split at hs <;> cases hs
    exact (h.takeIdle (by rw [List.take_append_drop k])).putInUse
  case closeIdle =>
    split at hs <;> cases hs
    exact (h.takeIdle (by rw [List.take_append_drop s.idle.length])).putInUse
  case dialOkFor w =>
    split at hs
    · rename_i hm
      split at hs <;> cases hs
      · exact (forW w hm).fresh.answer ‹_› (.inl ⟨_, rfl⟩) rfl
      · exact (forW w hm).fresh.putInUse
    · cases hs
  case dialFailFor w =>
    split at hs
    · rename_i hm
      -- the slot stays with the goroutine, which is now among the `failedDials`
      have h1 : Inv { s with forDials := s.forDials.erase w, failedDials := s.failedDials + 1 } :=
        (forW w hm).move rfl rfl rfl (by simp only [slots, dialing, deliveredN]; omega) (fun _ => Nat.le_refl _) h.hW
      split at hs <;> cases hs
      · exact h1.answer ‹_› (.inr rfl) rfl
      · exact h1
    · cases hs
  all_goals split at hs <;> cases hs
  case dialOkOwn hd => exact (own hd).fresh.putInUse
  case dialFailOwn hd => exact decConns_inv _ (own hd)
  case decAfterFail hd =>
    exact decConns_inv _ (h.move rfl rfl rfl (by simp only [slots, dialing, deliveredN]; omega) (fun _ => Nat.le_refl _) h.hW)
  case release c hm => exact release_inv s h c hm
  case close c hm => exact decConns_inv _ (h.takeInUse hm).drop

theorem run_eq_iter (s : State) (evs : List Event) : run s evs = iter step s evs := by
  induction evs generalizing s with
  | nil => rfl
  | cons e es ih => simp only [run, Iter.iter_cons, ih]

theorem run_inv (evs : List Event) (s s' : State) (h : Inv s) (hr : run s evs = some s') : Inv s' :=
  Iter.inv (fun _ _ _ => step_inv) h (run_eq_iter s evs ▸ hr)

end Fh.Proofs.HostPool
