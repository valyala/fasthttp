/-
For C31 (HTTP date).  The layout spec looks names up ignoring case and counts days year by year; the fast parser
compares `||| 0x20` against lower-case names and time.Date uses a closed form: first, these agree.  Then the parser
in normal form (`parseDate29_eq`), its equality with the layout (`date_eq_spec`), AppendHTTPDate read back
(`parse_append`), and every second of the years 0..9999 as a valid civil time.
-/
import FhVerif.Model.HttpDate
import FhVerif.Spec.HttpDate
import FhVerif.Proofs.ByteClass

namespace Fh.Proofs.HttpDate
open Fh Fh.Model Fh.Spec Fh.Proofs.ByteClass

def isLowerB (c : UInt8) : Bool := 97 ≤ c && c ≤ 122

/-- the two ways of folding a byte agree wherever either yields a lower-case letter -/
theorem fold_agree (c : UInt8) :
    (isLowerB (asciiLower c) || isLowerB (c ||| 32)) = true → asciiLower c = c ||| 32 :=
  forall_byte (P := fun c => (isLowerB (asciiLower c) || isLowerB (c ||| 32)) = true → asciiLower c = c ||| 32)
    (by decide +kernel) c

theorem fold_eq (c t : UInt8) (ht : isLowerB t = true) : (asciiLower c == t) = ((c ||| 32) == t) := by
  rw [Bool.eq_iff_iff, beq_iff_eq, beq_iff_eq]
  constructor <;> intro e <;> rw [← e, fold_agree c (by rw [e, ht]; simp)]

theorem map_fold_beq (w n : Bytes) (hn : n.all isLowerB = true) :
    (w.map asciiLower == n) = (w.map (· ||| 32) == n) := by
  induction w generalizing n with
  | nil => rfl
  | cons c w ih =>
    cases n with
    | nil => rfl
    | cons t n =>
      rw [List.all_cons, Bool.and_eq_true] at hn
      simp only [List.map_cons, List.cons_beq_cons, fold_eq c t hn.1, ih n hn.2]

/-- looking a word up ignoring case = looking `||| 0x20` of it up among the lower-case names -/
theorem lookup_lower {names lower : List Bytes} (hl : names.map (·.map asciiLower) = lower)
    (hc : lower.all (·.all isLowerB) = true) (w : Bytes) :
    lookupName names w = (lower.findIdx? (w.map (· ||| 32) == ·)).map (· + 1) := by
  subst hl
  unfold lookupName
  congr 1
  induction names with
  | nil => rfl
  | cons n rest ih =>
    rw [List.map_cons, List.all_cons, Bool.and_eq_true] at hc
    simp only [List.map_cons, List.findIdx?_cons, eqFold, map_fold_beq _ _ hc.1, ih hc.2]

theorem lookup_range {names : List Bytes} {w : Bytes} {i : Nat} (h : lookupName names w = some i) :
    1 ≤ i ∧ i ≤ names.length := by
  obtain ⟨j, hj, rfl⟩ := Option.map_eq_some_iff.1 h
  obtain ⟨hlt, -⟩ := List.findIdx?_eq_some_iff_getElem.1 hj
  omega

theorem monthNames_lower : monthNameList.map (·.map asciiLower) =
    [[106, 97, 110], [102, 101, 98], [109, 97, 114], [97, 112, 114], [109, 97, 121], [106, 117, 110],
     [106, 117, 108], [97, 117, 103], [115, 101, 112], [111, 99, 116], [110, 111, 118], [100, 101, 99]] := by
  decide +kernel

theorem dayNames_lower : dayNameList.map (·.map asciiLower) =
    [[109, 111, 110], [116, 117, 101], [119, 101, 100], [116, 104, 117], [102, 114, 105], [115, 97, 116], [115, 117, 110]] := by
  decide +kernel

theorem month_eq (a b c : UInt8) : lookupName monthNameList [a, b, c] = parseMonth3 a b c := by
  rw [lookup_lower monthNames_lower (by decide)]
  simp only [List.map, List.findIdx?_cons, List.findIdx?_nil, parseMonth3,
    apply_ite (Option.map (fun x : Nat => x + 1)), Option.map_some, Option.map_none]

theorem weekday_eq (a b c : UInt8) : (lookupName dayNameList [a, b, c]).isSome = isWeekday3 a b c := by
  rw [lookup_lower dayNames_lower (by decide), Option.isSome_map, List.findIdx?_isSome]
  simp only [List.any_cons, List.any_nil, Bool.or_false, Bool.or_assoc, isWeekday3, List.map]

theorem month_range (a b c : UInt8) (m : Nat) (h : parseMonth3 a b c = some m) : 1 ≤ m ∧ m ≤ 12 :=
  lookup_range (month_eq a b c ▸ h)

theorem leap_eq (y : Nat) : leapYear y = isLeap y := by
  rw [Bool.eq_iff_iff]
  simp [leapYear, isLeap]
  omega

theorem monthLen_eq (y m : Nat) : monthLen y m = daysIn y m := by
  unfold daysIn
  split <;> simp_all [monthLen, leap_eq]

theorem yearLen_eq (n : Nat) : yearLen n =
    365 + (if n % 4 = 0 then 1 else 0) - (if n % 100 = 0 then 1 else 0) + (if n % 400 = 0 then 1 else 0) := by
  have h1 : n % 400 = 0 → n % 100 = 0 := by omega
  have h2 : n % 100 = 0 → n % 4 = 0 := by omega
  unfold yearLen leapYear
  by_cases c400 : n % 400 = 0
  · simp [c400, h1 c400, h2 (h1 c400)]
  · by_cases c100 : n % 100 = 0
    · simp [c400, c100, h2 c100]
    · by_cases c4 : n % 4 = 0 <;> simp [c400, c100, c4]

/-- ⌈(n+1)/d⌉ exceeds ⌈n/d⌉ exactly when d divides n -/
theorem ceilDiv_succ (n k d : Nat) (hd : d = k + 1) :
    (n + 1 + k) / d = (n + k) / d + if n % d = 0 then 1 else 0 := by
  subst hd
  rw [Nat.add_right_comm, Nat.succ_div]
  simp [Nat.dvd_iff_mod_eq_zero, Nat.add_assoc]

theorem daysBeforeYear_succ (n : Nat) : daysBeforeYear (n + 1) = daysBeforeYear n + yearLen n := by
  have h3 : (n + 99) / 100 ≤ (n + 3) / 4 := by omega
  have h2 : (if n % 100 = 0 then 1 else 0) ≤ (if n % 4 = 0 then 1 else 0) := by
    split <;> split <;> omega
  unfold daysBeforeYear
  rw [yearLen_eq, ceilDiv_succ n 3 4 rfl, ceilDiv_succ n 99 100 rfl, ceilDiv_succ n 399 400 rfl]
  -- linear in the quotients and the increments
  generalize (if n % 100 = 0 then 1 else 0) = x100 at *
  generalize (if n % 4 = 0 then 1 else 0) = x4 at *
  generalize (if n % 400 = 0 then 1 else 0) = x400
  generalize (n + 99) / 100 = q100 at *
  generalize (n + 3) / 4 = q4 at *
  generalize (n + 399) / 400 = q400
  omega

theorem daysBefore_eq (y : Nat) : daysBefore y = daysBeforeYear y := by
  induction y with
  | zero => rfl
  | succ n ih => rw [daysBefore, ih, daysBeforeYear_succ]

theorem epoch_eq : daysBefore 1970 = unixEpochDay := by rw [daysBefore_eq]; decide

theorem month_step (y m : Nat) (h1 : 1 ≤ m) (h2 : m < 12) :
    daysBeforeMonth y (m + 1) = daysBeforeMonth y m + daysIn y m := by
  unfold daysBeforeMonth daysIn
  generalize isLeap y = l
  -- eleven months, leap year or not: a finite table
  revert h1; revert h2; revert m
  cases l <;> decide

theorem monthDays_eq (y m : Nat) (h1 : 1 ≤ m) (h2 : m ≤ 12) : monthDaysBefore y m = daysBeforeMonth y m := by
  induction m with
  | zero => omega
  | succ m ih =>
    cases m with
    | zero => simp [monthDaysBefore, daysBeforeMonth, cumDays]
    | succ k =>
      show monthDaysBefore y (k + 1) + monthLen y (k + 1) = _
      rw [ih (by omega) (by omega), monthLen_eq, month_step y (k + 1) (by omega) (by omega)]

theorem year_step (y : Nat) : daysBeforeYear (y + 1) = daysBeforeYear y + daysBeforeMonth y 12 + 31 := by
  rw [daysBeforeYear_succ, Nat.add_assoc]
  unfold yearLen daysBeforeMonth
  rw [leap_eq]
  cases isLeap y <;> rfl

theorem daysIn_le (y m : Nat) : daysIn y m ≤ 31 := by
  unfold daysIn; repeat' split
  all_goals omega

theorem daysIn_ge (y m : Nat) : 28 ≤ daysIn y m := by
  unfold daysIn; repeat' split
  all_goals omega

theorem norm_ok (y m d : Nat) : normDate y m d = (y, m, d) ↔ d ≤ daysIn y m := by
  unfold normDate
  by_cases hd : d ≤ daysIn y m
  · simp [hd]
  · by_cases hm : m = 12 <;> simp [hd, hm]

theorem sub48 (c : UInt8) (h : 48 ≤ c) : (c - 48).toNat = c.toNat - 48 := UInt8.toNat_sub_of_le c 48 h

theorem not_isDig (c : UInt8) : (c < 48 || c > 57) = !isDig c := by
  simp [isDig, ← UInt8.not_le, Bool.not_and]

theorem digits2 (a b : UInt8) : digitsVal [a, b] = parse2Digits a b := by
  unfold digitsVal parse2Digits
  rw [Bool.or_assoc, not_isDig a, not_isDig b, ← Bool.not_and]
  by_cases h : (isDig a && isDig b) = true
  · have h' := h
    simp only [isDig, Bool.and_eq_true, decide_eq_true_eq] at h'
    simp [h, h'.1.1, h'.2.1, Nat.mul_comm]
  · simp [h]

theorem digits4 (a b c d : UInt8) : digitsVal [a, b, c, d] = parse4Digits a b c d := by
  unfold parse4Digits
  rw [← digits2, ← digits2]
  simp only [digitsVal, List.all_cons, List.all_nil, Bool.and_true, List.foldl_cons, List.foldl_nil, Bool.and_eq_true]
  by_cases h1 : isDig a = true ∧ isDig b = true
  · by_cases h2 : isDig c = true ∧ isDig d = true
    · rw [if_pos h1, if_pos h2, if_pos ⟨h1.1, h1.2, h2.1, h2.2⟩]; simp; omega
    · rw [if_pos h1, if_neg h2, if_neg (fun h => h2 ⟨h.2.2.1, h.2.2.2⟩)]
  · rw [if_neg h1, if_neg (fun h => h1 ⟨h.1, h.2.1⟩)]

theorem takeN_zero (r : Bytes) : takeN 0 r = some ([], r) := rfl

theorem takeN_succ_cons (n : Nat) (x : UInt8) (r : Bytes) :
    takeN (n + 1) (x :: r) = (takeN n r).map fun p => (x :: p.1, p.2) := by
  simp only [takeN, List.length_cons, Nat.add_lt_add_iff_right, List.take_succ_cons, List.drop_succ_cons]
  split <;> rfl

theorem takeN_len {n : Nat} {b : Bytes} {p : Bytes × Bytes} (h : takeN n b = some p) :
    b.length = n + p.2.length := by
  unfold takeN at h
  split at h
  · cases h
  · cases h; simp; omega

theorem lit_nil (r : Bytes) : lit [] r = some r := rfl

theorem lit_cons_cons (x y : UInt8) (l r : Bytes) : lit (x :: l) (y :: r) = if y = x then lit l r else none := by
  simp only [lit, List.length_cons, List.take_succ_cons, List.drop_succ_cons, Nat.add_le_add_iff_right]
  by_cases h : y = x
  · subst h; simp
  · simp [h]

theorem lit_len {l b r : Bytes} (n : Nat) (h : lit l b = some r) (hn : l.length = n) : b.length = n + r.length := by
  unfold lit at h
  split at h
  · cases h; simp_all
  · cases h

/-! Guards `if p then · else none` commute with `Option.bind`, so the layout's checks, which it makes between
the reads, can be collected in front of them. -/

section guards
variable {α β : Type} (p q : Prop) [Decidable p] [Decidable q]

theorem ite_bind (o : Option α) (f : α → Option β) :
    (if p then o else none).bind f = if p then o.bind f else none := by
  split <;> rfl

theorem bind_ite (o : Option α) (f : α → Option β) :
    (o.bind fun a => if p then f a else none) = if p then o.bind f else none := by
  split
  · rfl
  · exact Option.bind_fun_none o

theorem ite_ite_none (x : Option α) : (if p then (if q then x else none) else none) = if p ∧ q then x else none := by
  by_cases p <;> simp [*]

theorem ite_none_ite (x : Option α) : (if p then none else if q then none else x) = if p ∨ q then none else x := by
  by_cases p <;> simp [*]

theorem bind_const (o : Option α) (x : Option β) : (o.bind fun _ => x) = if o.isSome then x else none := by
  cases o <;> rfl

end guards

def civTuple (c : Civil) : Nat × Nat × Nat × Nat × Nat × Nat := (c.year, c.month, c.day, c.hour, c.min, c.sec)

/-- the parser's range checks and its calendar check through `normDate` accept exactly the valid civil times -/
theorem checks_eq (y m d h mi s : Nat) (h1 : 1 ≤ m) (h2 : m ≤ 12) :
    (if d < 1 || d > 31 then none else if h > 23 then none else if mi > 59 then none else if s > 59 then none
      else if normDate y m d != (y, m, d) then none else some (⟨y, m, d, h, mi, s⟩ : Civil)) =
    if Civil.valid ⟨y, m, d, h, mi, s⟩ then some ⟨y, m, d, h, mi, s⟩ else none := by
  have := daysIn_le y m
  simp only [ite_none_ite, Bool.or_eq_true, decide_eq_true_eq, bne_iff_ne, ne_eq, norm_ok, Civil.valid,
    Bool.and_eq_true]
  split
  · rw [if_neg (by omega)]
  · rw [if_pos (by omega)]

theorem spec_checks_eq (y m d h mi s : Nat) (h1 : 1 ≤ m) (h2 : m ≤ 12) :
    (if d < 1 || d > monthLen y m then none else if h > 23 || mi > 59 || s > 59 then none
      else some (y, m, d, h, mi, s)) =
    (if Civil.valid ⟨y, m, d, h, mi, s⟩ then some ⟨y, m, d, h, mi, s⟩ else none).map civTuple := by
  simp only [ite_none_ite, Bool.or_eq_true, decide_eq_true_eq, monthLen_eq, Civil.valid, Bool.and_eq_true]
  split
  · rw [if_neg (by omega)]; rfl
  · rw [if_pos (by omega)]; rfl

/-- the fast parser in normal form: day name and separators, six numbers, a valid civil time -/
theorem parseDate29_eq (b0 b1 b2 b3 b4 b5 b6 b7 b8 b9 b10 b11 b12 b13 b14 b15 b16 b17 b18 b19 b20 b21 b22 b23 b24
    b25 b26 b27 b28 : UInt8) :
    parseDate29 b0 b1 b2 b3 b4 b5 b6 b7 b8 b9 b10 b11 b12 b13 b14 b15 b16 b17 b18 b19 b20 b21 b22 b23 b24
      b25 b26 b27 b28 =
    if isWeekday3 b0 b1 b2 = true ∧ b3 = 44 ∧ b4 = 32 ∧ b7 = 32 ∧ b11 = 32 ∧ b16 = 32 ∧ b19 = 58 ∧ b22 = 58 ∧
        b25 = 32 ∧ b26 = 71 ∧ b27 = 77 ∧ b28 = 84 then
      (parse2Digits b5 b6).bind fun day => (parseMonth3 b8 b9 b10).bind fun month =>
      (parse4Digits b12 b13 b14 b15).bind fun year => (parse2Digits b17 b18).bind fun hour =>
      (parse2Digits b20 b21).bind fun minute => (parse2Digits b23 b24).bind fun second =>
      if Civil.valid ⟨year, month, day, hour, minute, second⟩ then some ⟨year, month, day, hour, minute, second⟩
      else none
    else none := by
  unfold parseDate29
  have hm := month_range b8 b9 b10
  generalize parse2Digits b5 b6 = od
  generalize parseMonth3 b8 b9 b10 = om at hm ⊢
  generalize parse4Digits b12 b13 b14 b15 = oy
  generalize parse2Digits b17 b18 = oh
  generalize parse2Digits b20 b21 = omi
  generalize parse2Digits b23 b24 = os
  generalize isWeekday3 b0 b1 b2 = wd
  by_cases H : wd = true ∧ b3 = 44 ∧ b4 = 32 ∧ b7 = 32 ∧ b11 = 32 ∧ b16 = 32 ∧ b19 = 58 ∧ b22 = 58 ∧
      b25 = 32 ∧ b26 = 71 ∧ b27 = 77 ∧ b28 = 84
  · rw [if_pos H]
    obtain ⟨rfl, rfl, rfl, rfl, rfl, rfl, rfl, rfl, rfl, rfl, rfl, rfl⟩ := H
    simp only [bne_self_eq_false, Bool.or_self, Bool.not_true, Bool.false_eq_true, if_false]
    cases od with
    | none => rfl
    | some day =>
    cases om with
    | none => simp
    | some month =>
    cases oy with
    | none => simp
    | some year =>
    cases oh with
    | none => simp
    | some hour =>
    cases omi with
    | none => simp
    | some minute =>
    cases os with
    | none => simp
    | some second =>
    obtain ⟨h1, h2⟩ := hm month rfl
    exact checks_eq year month day hour minute second h1 h2
  · rw [if_neg H, Option.eq_none_iff_forall_ne_some]
    intro c hc
    simp only [Option.ite_none_left_eq_some, Bool.not_eq_true', Bool.not_eq_false, Bool.or_eq_true, bne_iff_ne,
      ne_eq, not_or, Decidable.not_not, and_assoc] at hc
    obtain ⟨h0, h3, h4, h7, h11, h16, h19, h22, h25, h26, h27, h28, -⟩ := hc
    exact H ⟨h0, h3, h4, h7, h11, h16, h19, h22, h25, h26, h27, h28⟩

/-- the layout computed on 29 bytes, field by field, with its checks collected, is the same -/
theorem fields29 (b0 b1 b2 b3 b4 b5 b6 b7 b8 b9 b10 b11 b12 b13 b14 b15 b16 b17 b18 b19 b20 b21 b22 b23 b24
    b25 b26 b27 b28 : UInt8) :
    httpDateFields [b0, b1, b2, b3, b4, b5, b6, b7, b8, b9, b10, b11, b12, b13, b14, b15, b16, b17, b18, b19, b20,
      b21, b22, b23, b24, b25, b26, b27, b28] =
    (parseDate29 b0 b1 b2 b3 b4 b5 b6 b7 b8 b9 b10 b11 b12 b13 b14 b15 b16 b17 b18 b19 b20 b21 b22 b23 b24
      b25 b26 b27 b28).map civTuple := by
  rw [parseDate29_eq, apply_ite (Option.map civTuple), Option.map_none]
  simp only [httpDateFields, bind, takeN_zero, takeN_succ_cons, Option.map_some, Option.bind_some, lit_nil,
    lit_cons_cons, ite_bind, bind_ite, ite_ite_none, and_assoc, bind_const, weekday_eq, digits2, digits4, month_eq,
    bne_self_eq_false, Bool.false_eq_true, if_false, Option.map_bind, Function.comp_def]
  refine ite_congr rfl (fun _ => ?_) (fun _ => rfl)
  refine Option.bind_congr fun day _ => Option.bind_congr fun month hm => Option.bind_congr fun year _ =>
    Option.bind_congr fun hour _ => Option.bind_congr fun minute _ => Option.bind_congr fun second _ => ?_
  obtain ⟨h1, h2⟩ := month_range _ _ _ _ hm
  exact spec_checks_eq year month day hour minute second h1 h2

theorem civil_eq_fields (b : Bytes) (h : b.length = 29) :
    httpDateFields b = (parseRFC1123Civil b).map civTuple := by
  iterate 29
    obtain ⟨_, b, rfl⟩ := List.exists_cons_of_length_eq_add_one h
    replace h := Nat.succ.inj h
  cases List.eq_nil_of_length_eq_zero h
  exact fields29 ..

theorem fields_len (b : Bytes) (t : Nat × Nat × Nat × Nat × Nat × Nat) (h : httpDateFields b = some t) :
    b.length = 29 := by
  simp only [httpDateFields, bind, Option.bind_eq_some_iff] at h
  obtain ⟨p1, h1, _, -, r2, h2, p3, h3, _, -, r4, h4, p5, h5, _, -, r6, h6, p7, h7, _, -, r8, h8,
    p9, h9, _, -, r10, h10, p11, h11, _, -, r12, h12, p13, h13, _, -, r14, h14, h⟩ := h
  by_cases hr : r14 = []
  · -- 3 + 2 + 2 + 1 + 3 + 1 + 4 + 1 + 2 + 1 + 2 + 1 + 2 + 4 bytes were read and none is left
    rw [takeN_len h1, lit_len 2 h2 rfl, takeN_len h3, lit_len 1 h4 rfl, takeN_len h5, lit_len 1 h6 rfl,
      takeN_len h7, lit_len 1 h8 rfl, takeN_len h9, lit_len 1 h10 rfl, takeN_len h11, lit_len 1 h12 rfl,
      takeN_len h13, lit_len 4 h14 rfl, hr]
    rfl
  · rw [if_pos (by simpa using hr)] at h; cases h

theorem parse_some (b : Bytes) (c : Civil) (h : parseRFC1123Civil b = some c) : b.length = 29 ∧ c.valid = true := by
  unfold parseRFC1123Civil at h
  split at h
  · simp only [parseDate29_eq, Option.ite_none_right_eq_some, Option.bind_eq_some_iff, Option.some.injEq] at h
    obtain ⟨-, _, -, _, -, _, -, _, -, _, -, _, -, hv, rfl⟩ := h
    exact ⟨rfl, hv⟩
  · cases h

theorem unix_eq (c : Civil) (hv : c.valid = true) : fieldsUnix (civTuple c) = civilUnix c := by
  simp only [Civil.valid, Bool.and_eq_true, decide_eq_true_eq] at hv
  simp only [fieldsUnix, civTuple, unixSecond, civilUnix, dayNumber]
  rw [daysBefore_eq, epoch_eq, monthDays_eq c.year c.month (by omega) (by omega)]

/-- both decline anything but 29 bytes, and on 29 bytes they read the same fields -/
theorem date_eq_spec (b : Bytes) : parseRFC1123DateGMT b = httpDateSpec b := by
  unfold parseRFC1123DateGMT httpDateSpec
  by_cases hl : b.length = 29
  · rw [civil_eq_fields b hl, Option.map_map]
    apply Option.map_congr
    intro c hc
    rw [Function.comp_apply, unix_eq c (parse_some b c hc).2]
  · have h1 : parseRFC1123Civil b = none := Option.eq_none_iff_forall_ne_some.2 fun c hc => hl (parse_some b c hc).1
    have h2 : httpDateFields b = none := Option.eq_none_iff_forall_ne_some.2 fun t ht => hl (fields_len b t ht)
    rw [h1, h2]; rfl

theorem digit_spec (n : Nat) : (digit n < 48) = false ∧ (digit n > 57) = false ∧ (digit n - 48).toNat = n % 10 := by
  have : ∀ k : Fin 10, let d := UInt8.ofNat (48 + k.val)
      (d < 48) = false ∧ (d > 57) = false ∧ (d - 48).toNat = k.val := by decide +kernel
  simpa [digit] using this ⟨n % 10, Nat.mod_lt _ (by decide)⟩

theorem p2 (a b : Nat) : parse2Digits (digit a) (digit b) = some (a % 10 * 10 + b % 10) := by
  obtain ⟨a1, a2, a3⟩ := digit_spec a
  obtain ⟨b1, b2, b3⟩ := digit_spec b
  simp [parse2Digits, a1, a2, a3, b1, b2, b3]

theorem pad2_parse (n : Nat) (h : n < 100) : parse2Digits (digit (n / 10)) (digit n) = some n := by
  rw [p2]; congr 1; omega

theorem pad4_parse (n : Nat) (h : n < 10000) :
    parse4Digits (digit (n / 1000)) (digit (n / 100)) (digit (n / 10)) (digit n) = some n := by
  simp only [parse4Digits, p2]; congr 1; omega

theorem dayName_ok (i : Nat) (h : i < 7) : ∃ a b c, dayNames.getD i [] = [a, b, c] ∧ isWeekday3 a b c = true := by
  have : ∀ i, i < 7 → (match dayNames.getD i [] with | [a, b, c] => isWeekday3 a b c | _ => false) = true := by
    decide +kernel
  have := this i h
  split at this
  · exact ⟨_, _, _, ‹_›, this⟩
  · cases this

theorem monthName_ok (m : Nat) (h : m < 12) :
    ∃ a b c, monthNames.getD m [] = [a, b, c] ∧ parseMonth3 a b c = some (m + 1) := by
  have : ∀ m, m < 12 →
      (match monthNames.getD m [] with | [a, b, c] => parseMonth3 a b c == some (m + 1) | _ => false) = true := by
    decide +kernel
  have := this m h
  split at this
  · exact ⟨_, _, _, ‹_›, beq_iff_eq.1 this⟩
  · cases this

theorem parse_append (c : Civil) (hv : c.valid = true) (hy : c.year ≤ 9999) :
    parseRFC1123Civil (appendHTTPDate c) = some c := by
  have hv' := hv
  simp only [Civil.valid, Bool.and_eq_true, decide_eq_true_eq] at hv'
  obtain ⟨w1, w2, w3, hday, hwd⟩ := dayName_ok (weekdayIdx (dayNumber c.year c.month c.day))
    (Nat.mod_lt _ (by decide))
  obtain ⟨m1, m2, m3, hmon, hpm⟩ := monthName_ok (c.month - 1) (by omega)
  rw [Nat.sub_add_cancel hv'.1.1.1.1.1.1] at hpm
  have h31 := daysIn_le c.year c.month
  unfold appendHTTPDate
  rw [hday, hmon]
  simp only [pad2, pad4, List.cons_append, List.nil_append, parseRFC1123Civil, parseDate29_eq, hwd, hpm,
    pad2_parse c.day (by omega), pad2_parse c.hour (by omega), pad2_parse c.min (by omega),
    pad2_parse c.sec (by omega), pad4_parse c.year (by omega), and_self, if_true, Option.bind_some, hv]

theorem civil_of_day (N : Nat) : ∃ y m d, 1 ≤ m ∧ m ≤ 12 ∧ 1 ≤ d ∧ d ≤ daysIn y m ∧ dayNumber y m d = N := by
  induction N with
  | zero => exact ⟨0, 1, 1, by decide, by decide, by decide, by decide, by decide⟩
  | succ N ih =>
    obtain ⟨y, m, d, h1, h2, h3, h4, h5⟩ := ih
    by_cases hd : d < daysIn y m
    · exact ⟨y, m, d + 1, h1, h2, by omega, by omega, by unfold dayNumber at h5 ⊢; omega⟩
    · have hde : d = daysIn y m := by omega
      by_cases hm : m < 12
      · refine ⟨y, m + 1, 1, by omega, by omega, by omega, ?_, ?_⟩
        · have := daysIn_ge (y) (m + 1); omega
        · unfold dayNumber at h5 ⊢
          rw [month_step y m h1 hm]; omega
      · have hm12 : m = 12 := by omega
        subst hm12
        refine ⟨y + 1, 1, 1, by omega, by omega, by omega, (by have := daysIn_ge (y + 1) 1; omega), ?_⟩
        unfold dayNumber at h5 ⊢
        rw [year_step]
        have : daysIn y 12 = 31 := rfl
        have hb : daysBeforeMonth (y + 1) 1 = 0 := by simp [daysBeforeMonth, cumDays]
        omega

theorem civil_of_unix (n : Int) (h1 : -62167219200 ≤ n) (h2 : n ≤ 253402300799) :
    ∃ c : Civil, c.valid = true ∧ c.year ≤ 9999 ∧ civilUnix c = n := by
  obtain ⟨t, ht⟩ : ∃ t : Nat, (t : Int) = n + 62167219200 := ⟨(n + 62167219200).toNat, by omega⟩
  obtain ⟨y, m, d, a1, a2, a3, a4, a5⟩ := civil_of_day (t / 86400)
  refine ⟨⟨y, m, d, t % 86400 / 3600, t % 86400 % 3600 / 60, t % 86400 % 60⟩, ?_, ?_, ?_⟩
  · simp only [Civil.valid, Bool.and_eq_true, decide_eq_true_eq]
    omega
  · show y ≤ 9999
    have hN : t / 86400 ≤ 3652424 := by omega
    have hge : daysBeforeYear y ≤ dayNumber y m d := by unfold dayNumber; omega
    have e : daysBeforeYear y = 365 * y + (y + 3) / 4 - (y + 99) / 100 + (y + 399) / 400 := rfl
    omega
  · simp only [civilUnix, a5, unixEpochDay]
    omega

end Fh.Proofs.HttpDate
