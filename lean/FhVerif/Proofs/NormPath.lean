/-
The theory of `normalizePath` (C26, and what C23 and C27 need of it): the segment view of a byte path,
duplicate-slash removal, the RFC 3986 stack machine, the Go loops ("delete the first non-final '..'
with its predecessor, repeat") equal to that machine, and the shape of every normalised path.
-/
import FhVerif.Model.NormPath
import FhVerif.Spec.RemoveDotSegments

namespace Fh.Proofs.NormPath
open Fh Fh.Model Fh.Spec

theorem splitSlash_ne_nil (b : Bytes) : splitSlash b ≠ [] := by
  cases b with
  | nil => simp [splitSlash]
  | cons c t =>
    simp only [splitSlash]
    split
    · simp
    · split <;> simp

theorem splitSlash_slash (t : Bytes) : splitSlash (47 :: t) = [] :: splitSlash t := by
  simp [splitSlash]

theorem splitSlash_cons_ne (c : UInt8) (t : Bytes) (hc : c ≠ 47) :
    ∃ s r, splitSlash t = s :: r ∧ splitSlash (c :: t) = (c :: s) :: r := by
  cases hs : splitSlash t with
  | nil => exact absurd hs (splitSlash_ne_nil t)
  | cons s r => exact ⟨s, r, rfl, by simp [splitSlash, hc, hs]⟩

theorem splitSlash_append_slash (a b : Bytes) : splitSlash (a ++ 47 :: b) = splitSlash a ++ splitSlash b := by
  induction a with
  | nil => simp [splitSlash]
  | cons c t ih =>
    by_cases hc : c = 47
    · rw [hc, List.cons_append, splitSlash_slash, splitSlash_slash, ih, List.cons_append]
    · obtain ⟨s, r, hs, hc'⟩ := splitSlash_cons_ne c t hc
      obtain ⟨s', r', hs', hc''⟩ := splitSlash_cons_ne c (t ++ 47 :: b) hc
      rw [ih, hs, List.cons_append, List.cons.injEq] at hs'
      rw [List.cons_append, hc', hc'', ← hs'.1, ← hs'.2, List.cons_append]

theorem splitSlash_nosep (x : Bytes) (h : 47 ∉ x) : splitSlash x = [x] := by
  induction x with
  | nil => rfl
  | cons c t ih =>
    rw [List.mem_cons, not_or] at h
    obtain ⟨s, r, hs, hc⟩ := splitSlash_cons_ne c t (Ne.symm h.1)
    rw [ih h.2, List.cons.injEq] at hs
    rw [hc, ← hs.1, ← hs.2]

theorem splitSlash_noslash (b : Bytes) : ∀ s ∈ splitSlash b, 47 ∉ s := by
  induction b with
  | nil => simp [splitSlash]
  | cons c t ih =>
    by_cases hc : c = 47
    · rw [hc, splitSlash_slash, List.forall_mem_cons]
      exact ⟨List.not_mem_nil, ih⟩
    · obtain ⟨s, r, hs, hc'⟩ := splitSlash_cons_ne c t hc
      rw [hs, List.forall_mem_cons] at ih
      rw [hc', List.forall_mem_cons, List.mem_cons, not_or]
      exact ⟨⟨Ne.symm hc, ih.1⟩, ih.2⟩

theorem segs_noslash (b : Bytes) : ∀ s ∈ segs b, 47 ∉ s := by
  unfold segs
  split <;> exact splitSlash_noslash _

theorem unsegs_cons (s : Seg) (l : List Seg) : unsegs (s :: l) = 47 :: (s ++ unsegs l) := by
  simp [unsegs]

theorem splitSlash_unsegs (s : Seg) (l : List Seg) (hs : 47 ∉ s) (hl : ∀ x ∈ l, 47 ∉ x) :
    splitSlash (s ++ unsegs l) = s :: l := by
  induction l generalizing s with
  | nil => simp [unsegs, splitSlash_nosep s hs]
  | cons y ys ih =>
    rw [List.forall_mem_cons] at hl
    rw [unsegs_cons, splitSlash_append_slash, splitSlash_nosep s hs, ih y hl.1 hl.2]
    rfl

theorem segs_unsegs (l : List Seg) (hne : l ≠ []) (hl : ∀ x ∈ l, 47 ∉ x) : segs (unsegs l) = l := by
  cases l with
  | nil => exact absurd rfl hne
  | cons s t =>
    rw [List.forall_mem_cons] at hl
    rw [unsegs_cons]
    exact splitSlash_unsegs s t hl.1 hl.2

theorem collapse_cons_ne (c : UInt8) (t : Bytes) (hc : c ≠ 47) :
    collapseSlashes (c :: t) = c :: collapseSlashes t :=
  collapseSlashes.eq_2 c t fun _ h _ => hc h

theorem collapse_slash_ne (t : Bytes) (ht : t.head? ≠ some 47) :
    collapseSlashes (47 :: t) = 47 :: collapseSlashes t :=
  collapseSlashes.eq_2 47 t fun _ _ h => ht (by rw [h]; rfl)

theorem collapse_head (x : Bytes) : (collapseSlashes x).head? = x.head? := by
  induction x using collapseSlashes.induct with
  | case1 rest ih => rw [collapseSlashes, ih]; rfl
  | case2 c rest h ih => rw [collapseSlashes.eq_2 c rest h]; rfl
  | case3 => rfl

/-- only the last segment may be empty -/
def NE (l : List Seg) : Prop := ∀ s ∈ l.dropLast, s ≠ []

theorem NE_cons (s : Seg) (t : List Seg) : NE (s :: t) ↔ t = [] ∨ (s ≠ [] ∧ NE t) := by
  cases t <;> simp [NE]

theorem NE_concat (l : List Seg) (s : Seg) : NE (l ++ [s]) ↔ ∀ x ∈ l, x ≠ [] := by
  simp [NE]

/-- after collapsing, an empty segment can only be the first or the last one -/
theorem collapse_inner (y : Bytes) : NE (splitSlash (collapseSlashes y)).tail := by
  induction y using collapseSlashes.induct with
  | case1 rest ih => rw [collapseSlashes]; exact ih
  | case2 c rest h ih =>
    rw [collapseSlashes.eq_2 c rest h]
    by_cases hc : c = 47
    · rw [hc, splitSlash_slash, List.tail_cons]
      cases rest with
      | nil => simp [collapseSlashes, splitSlash, NE]
      | cons d r =>
        have hd : d ≠ 47 := fun hd => h r hc (by rw [hd])
        rw [collapse_cons_ne d r hd] at ih ⊢
        obtain ⟨s, r', _, hs⟩ := splitSlash_cons_ne d (collapseSlashes r) hd
        rw [hs] at ih ⊢
        exact (NE_cons _ _).2 (Or.inr ⟨List.cons_ne_nil _ _, ih⟩)
    · obtain ⟨s, r', hs, hs'⟩ := splitSlash_cons_ne c (collapseSlashes rest) hc
      rw [hs']
      rw [hs] at ih
      exact ih
  | case3 => simp [collapseSlashes, splitSlash, NE]

theorem collapse_append_nosep (s X : Bytes) (hs : 47 ∉ s) :
    collapseSlashes (s ++ X) = s ++ collapseSlashes X := by
  induction s with
  | nil => rfl
  | cons c t ih =>
    rw [List.mem_cons, not_or] at hs
    rw [List.cons_append, collapse_cons_ne c _ (Ne.symm hs.1), ih hs.2, List.cons_append]

theorem unsegs_second (s : Seg) (t : List Seg) (hs : 47 ∉ s) (hne : NE (s :: t)) :
    (s ++ unsegs t).head? ≠ some 47 := by
  cases s with
  | nil =>
    rcases (NE_cons _ _).1 hne with rfl | ⟨h, _⟩
    · simp [unsegs]
    · exact absurd rfl h
  | cons c s' =>
    rw [List.mem_cons, not_or] at hs
    simpa using Ne.symm hs.1

theorem collapse_unsegs (l : List Seg) (hl : ∀ x ∈ l, 47 ∉ x) (hne : NE l) :
    collapseSlashes (unsegs l) = unsegs l := by
  induction l with
  | nil => rfl
  | cons s t ih =>
    rw [List.forall_mem_cons] at hl
    have ht : collapseSlashes (unsegs t) = unsegs t := by
      rcases (NE_cons _ _).1 hne with rfl | ⟨_, h⟩
      · rfl
      · exact ih hl.2 h
    rw [unsegs_cons, collapse_slash_ne _ (unsegs_second s t hl.1 hne), collapse_append_nosep s _ hl.1, ht]

/-- what holds of "", of the stack and of every input segment other than "." and ".." holds of the output -/
theorem rds_all {P : Seg → Prop} (h0 : P []) (st l : List Seg) (hst : ∀ x ∈ st, P x)
    (hl : ∀ x ∈ l, x ≠ dot → x ≠ dotdot → P x) : ∀ x ∈ rds st l, P x := by
  have htl : ∀ st : List Seg, (∀ x ∈ st, P x) → ∀ x ∈ st.tail, P x := fun _ h x hx => h x (List.mem_of_mem_tail hx)
  fun_induction rds st l with
  | case1 st => simpa using hst
  | case2 st s => simpa [or_imp, forall_and, h0] using hst
  | case3 st s => simpa [or_imp, forall_and, h0] using htl st hst
  | case4 st s hd hdd =>
    simpa [or_imp, forall_and, hl s List.mem_cons_self (by simpa using hd) (by simpa using hdd)] using hst
  | case5 st s t _ _ ih => exact ih hst (List.forall_mem_cons.1 hl).2
  | case6 st s t _ _ _ ih => exact ih (htl st hst) (List.forall_mem_cons.1 hl).2
  | case7 st s t _ hd hdd ih =>
    rw [List.forall_mem_cons] at hl
    exact ih (List.forall_mem_cons.2 ⟨hl.1 (by simpa using hd) (by simpa using hdd), hst⟩) hl.2

theorem rds_noslash (l : List Seg) (hl : ∀ x ∈ l, 47 ∉ x) : ∀ x ∈ rds [] l, 47 ∉ x :=
  rds_all List.not_mem_nil [] l (fun _ h => absurd h List.not_mem_nil) fun x hx _ _ => hl x hx

theorem rds_noDots (st l : List Seg) (hst : ∀ s ∈ st, s ≠ dot ∧ s ≠ dotdot) :
    ∀ s ∈ rds st l, s ≠ dot ∧ s ≠ dotdot :=
  rds_all ⟨by decide, by decide⟩ st l hst fun _ _ h1 h2 => ⟨h1, h2⟩

/-- every rule of the machine that ends it returns a non-empty list -/
theorem rds_ne_nil (st l : List Seg) (h : l ≠ []) : rds st l ≠ [] := by
  fun_induction rds st l <;> simp_all

theorem rds_NE (st l : List Seg) (hst : ∀ s ∈ st, s ≠ []) (hl : NE l) : NE (rds st l) := by
  fun_induction rds st l with
  | case1 st => exact fun x hx => hst x (List.mem_reverse.1 (List.dropLast_subset _ hx))
  | case2 st s => exact (NE_concat _ _).2 fun x hx => hst x (List.mem_reverse.1 hx)
  | case3 st s => exact (NE_concat _ _).2 fun x hx => hst x (List.mem_of_mem_tail (List.mem_reverse.1 hx))
  | case4 st s =>
    rw [List.reverse_cons]
    exact (NE_concat _ _).2 fun x hx => hst x (List.mem_reverse.1 hx)
  | case5 st s t ht _ ih => exact ih hst (((NE_cons s t).1 hl).resolve_left ht).2
  | case6 st s t ht _ _ ih =>
    exact ih (fun x hx => hst x (List.mem_of_mem_tail hx)) (((NE_cons s t).1 hl).resolve_left ht).2
  | case7 st s t ht _ _ ih =>
    obtain ⟨hs, hne⟩ := ((NE_cons s t).1 hl).resolve_left ht
    exact ih (List.forall_mem_cons.2 ⟨hs, hst⟩) hne

theorem rds_id (st l : List Seg) (hl : ∀ s ∈ l, s ≠ dot ∧ s ≠ dotdot) : rds st l = st.reverse ++ l := by
  fun_induction rds st l with
  | case1 st => simp
  | case4 st s => simp
  | case7 st s t _ _ _ ih => simpa using ih (List.forall_mem_cons.1 hl).2
  | case2 st s hd => exact absurd (eq_of_beq hd) (hl s List.mem_cons_self).1
  | case5 st s t _ hd => exact absurd (eq_of_beq hd) (hl s List.mem_cons_self).1
  | case3 st s _ hd => exact absurd (eq_of_beq hd) (hl s List.mem_cons_self).2
  | case6 st s t _ _ hd => exact absurd (eq_of_beq hd) (hl s List.mem_cons_self).2

theorem dropDots_concat (a : List Seg) (s : Seg) : dropDots (a ++ [s]) = a.filter (!isD ·) ++ [s] := by
  induction a with
  | nil => rfl
  | cons x a ih =>
    have : dropDots (x :: (a ++ [s])) = if isD x then dropDots (a ++ [s]) else x :: dropDots (a ++ [s]) := by
      cases a <;> rfl
    rw [List.cons_append, this, ih, List.filter_cons]
    cases isD x <;> rfl

theorem fixLastDot_concat (a : List Seg) (s : Seg) :
    fixLastDot (a ++ [s]) = a ++ [if isD s then [] else s] := by
  induction a with
  | nil => simp only [List.nil_append, fixLastDot]; split <;> rfl
  | cons x a ih =>
    have : fixLastDot (x :: (a ++ [s])) = x :: fixLastDot (a ++ [s]) := by cases a <;> rfl
    rw [List.cons_append, this, ih, List.cons_append]

theorem findDD_append (pre rest : List Seg) (hpre : ∀ s ∈ pre, isDD s = false) :
    findDD (pre ++ rest) = (findDD rest).map (· + pre.length) := by
  induction pre with
  | nil => simp
  | cons x pre ih =>
    rw [List.forall_mem_cons] at hpre
    have : findDD (x :: (pre ++ rest)) = (findDD (pre ++ rest)).map (· + 1) := by
      cases h : pre ++ rest with
      | nil => rfl
      | cons y ys => simp [findDD, hpre.1]
    rw [List.cons_append, this, ih hpre.2, Option.map_map]
    congr 1

theorem delDD_append (pre : List Seg) (s : Seg) (t : List Seg) :
    delDD (pre ++ s :: t) pre.length = pre.dropLast ++ t := by
  unfold delDD
  split
  · rename_i h
    rw [List.eq_nil_of_length_eq_zero h]; rfl
  · rw [List.take_append_of_le_length (Nat.sub_le _ _)]
    simp [List.dropLast_eq_take]

theorem loopDD_none (f : Nat) (l : List Seg) (h : findDD l = none) : loopDD f l = l := by
  cases f with
  | zero => rfl
  | succ f => rw [loopDD, h]

theorem loopDD_some (f : Nat) (l : List Seg) (i : Nat) (h : findDD l = some i) :
    loopDD (f + 1) l = loopDD f (delDD l i) := by
  simp only [loopDD, h]

theorem finalDD_concat (l : List Seg) (s : Seg) :
    finalDD (l ++ [s]) = if isDD s then l.dropLast ++ [[]] else l ++ [s] := by
  simp [finalDD]

/-- the Go loops against the machine, whose stack `st` (free of "..") stands in front of the input: a "." is dropped
    beforehand and ignored by the machine; a non-final ".." is the first one the deletion loop finds and cancels the
    segment before it, the top of the stack; any other segment is pushed -/
theorem loops_eq_rds (s : Seg) (a : List Seg) : ∀ (st : List Seg) (f : Nat),
    (∀ x ∈ st, isDD x = false) → (a.filter (!isD ·)).length ≤ f →
    finalDD (loopDD f (st.reverse ++ (a.filter (!isD ·) ++ [if isD s then [] else s]))) = rds st (a ++ [s]) := by
  induction a with
  | nil =>
    intro st f hst _
    have hnone : findDD (st.reverse ++ [if isD s then [] else s]) = none := by
      rw [findDD_append _ _ fun x hx => hst x (List.mem_reverse.1 hx)]
      rfl
    rw [List.filter_nil, List.nil_append, loopDD_none f _ hnone, finalDD_concat, List.nil_append, rds.eq_2,
      List.dropLast_reverse, List.reverse_cons]
    cases hd : isD s with
    | true => rw [show (s == dot) = true from hd]; rfl
    | false =>
      rw [show (s == dot) = false from hd]
      cases hdd : isDD s with
      | true => rw [show (s == dotdot) = true from hdd]; simp [hdd]
      | false => rw [show (s == dotdot) = false from hdd]; simp [hdd]
  | cons x a ih =>
    intro st f hst hf
    rw [List.cons_append, rds.eq_3 st x _ (by simp)]
    cases hd : isD x with
    | true =>
      rw [List.filter_cons_of_neg (by simp [hd])] at hf ⊢
      rw [if_pos (show (x == dot) = true from hd)]
      exact ih st f hst hf
    | false =>
      rw [List.filter_cons_of_pos (by simp [hd])] at hf ⊢
      rw [if_neg (show ¬(x == dot) = true from Bool.eq_false_iff.1 hd)]
      cases hdd : isDD x with
      | true =>
        have hfind : findDD (st.reverse ++ x :: (a.filter (!isD ·) ++ [if isD s then [] else s])) = some st.reverse.length := by
          rw [findDD_append _ _ fun x hx => hst x (List.mem_reverse.1 hx)]
          cases a.filter (!isD ·) <;> simp [findDD, hdd]
        cases f with
        | zero => exact absurd hf (Nat.not_succ_le_zero _)
        | succ f =>
          rw [if_pos (show (x == dotdot) = true from hdd), List.cons_append, loopDD_some f _ _ hfind, delDD_append, List.dropLast_reverse]
          exact ih st.tail f (fun y hy => hst y (List.mem_of_mem_tail hy)) (Nat.le_of_succ_le_succ hf)
      | false =>
        rw [if_neg (show ¬(x == dotdot) = true from Bool.eq_false_iff.1 hdd),
          ← ih (x :: st) f (List.forall_mem_cons.2 ⟨hdd, hst⟩) (Nat.le_of_succ_le hf),
          List.reverse_cons, List.append_assoc]
        rfl

theorem normalizeSegs_eq_rds (l : List Seg) : normalizeSegs l = removeDotSegments l := by
  obtain rfl | ⟨a, s, rfl⟩ : l = [] ∨ ∃ a s, l = a ++ [s] := by simpa using l.eq_nil_or_concat
  · rfl
  · rw [normalizeSegs, dropDots_concat, fixLastDot_concat, List.length_append, List.length_singleton]
    exact loops_eq_rds s a [] _ (fun _ h => absurd h List.not_mem_nil) (Nat.le_succ _)

theorem normalizePath_eq_rds (src : Bytes) :
    normalizePath src = unsegs (rds [] (segs (collapseSlashes (addLeadingSlash src ++ decodeNoPlus src)))) :=
  congrArg unsegs (normalizeSegs_eq_rds _)

theorem decodeNoPlus_other (c : UInt8) (rest : Bytes) (h : c ≠ 37) :
    decodeNoPlus (c :: rest) = c :: decodeNoPlus rest :=
  decodeNoPlus.eq_3 c rest fun _ _ _ hc _ => h hc

structure WF (l : List Seg) : Prop where
  ne : l ≠ []
  noSlash : ∀ x ∈ l, 47 ∉ x
  noDots : ∀ x ∈ l, x ≠ dot ∧ x ≠ dotdot
  inner : NE l

/-- the normalised path is "/s1/…/sn" with n ≥ 1, no segment "." or "..", and no empty segment except
    possibly the last -/
theorem normalizePath_wf (src : Bytes) : ∃ l, normalizePath src = unsegs l ∧ WF l := by
  obtain ⟨y, hy⟩ : ∃ y, addLeadingSlash src ++ decodeNoPlus src = 47 :: y := by
    cases src with
    | nil => exact ⟨[], rfl⟩
    | cons c t =>
      by_cases hc : c = 47
      · exact ⟨decodeNoPlus t, by rw [hc, decodeNoPlus_other 47 t (by decide)]; rfl⟩
      · refine ⟨decodeNoPlus (c :: t), ?_⟩
        unfold addLeadingSlash
        split
        · rename_i h; exact absurd (List.cons.inj h).1 hc
        · rfl
  obtain ⟨z, hz⟩ : ∃ z, collapseSlashes (47 :: y) = 47 :: z := by
    have := collapse_head (47 :: y)
    cases h : collapseSlashes (47 :: y) with
    | nil => simp [h] at this
    | cons c z => exact ⟨z, by simpa [h] using this⟩
  have hne : NE (splitSlash z) := by
    have := collapse_inner (47 :: y)
    rwa [hz, splitSlash_slash] at this
  refine ⟨rds [] (splitSlash z), ?_, rds_ne_nil _ _ (splitSlash_ne_nil z), rds_noslash _ (splitSlash_noslash z),
    rds_noDots _ _ (by simp), rds_NE _ _ (by simp) hne⟩
  rw [normalizePath_eq_rds, hy, hz]
  rfl

/-- a path of that shape is left alone by normalisation, provided decoding leaves it alone -/
theorem normalizePath_of_wf (p : Bytes) (l : List Seg) (wf : WF l) (hp : p.head? = some 47)
    (hd : decodeNoPlus p = unsegs l) : normalizePath p = unsegs l := by
  have hadd : addLeadingSlash p = [] := by
    cases p with
    | nil => simp at hp
    | cons c t => rw [List.head?_cons, Option.some.injEq] at hp; rw [hp]; rfl
  rw [normalizePath_eq_rds, hadd, List.nil_append, hd, collapse_unsegs l wf.noSlash wf.inner,
    segs_unsegs l wf.ne wf.noSlash, rds_id [] l wf.noDots]
  rfl

end Fh.Proofs.NormPath
