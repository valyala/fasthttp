/-
For C31 (IPv6), soundness of validIPv6Addr against RFC 4291 §2.2.  What the scanner parseIPv6Hextets accepts is
written as groups joined by ':' (`join`), one run of them or two runs around a "::" (`Acc`, `loop_spec`); on such
strings the text form's `splitDouble` and `pieces` are computed from the groups.  validIPv4 accepts strict dotted
quads only, and validIPv6Addr puts the two together at the last ':' (`v4_tail_spec`).
-/
import FhVerif.Model.IPAddr
import FhVerif.Spec.IPAddr
import FhVerif.Proofs.IPAddr
import FhVerif.Props.C32

namespace Fh.Proofs.IPv6
open Fh Fh.Model Fh.Spec Fh.Proofs.IPAddr Fh.Proofs.IntCodec Fh.Props

theorem ishex_eq (c : UInt8) : ishex c = isHexDigit c := by
  rw [Bool.eq_iff_iff]
  simp only [ishex, isHexDigit, decide_eq_true_eq, UInt8.lt_iff_toNat_lt, UInt8.le_iff_toNat_le, C32.hex2int_eq,
    Bool.or_eq_true, Bool.and_eq_true, UInt8.toNat_ofNat, Nat.reducePow, Nat.reduceMod, hexVal, Spec.isDigit]
  split
  · omega
  · split
    · omega
    · split <;> omega

def colons (fs : List Bytes) : Bytes := fs.flatMap (58 :: ·)

def join : List Bytes → Bytes
  | [] => []
  | f :: fs => f ++ colons fs

/-- makes `fs` the fields of `join fs`, with no "::" in it -/
def Fields (fs : List Bytes) : Prop := ∀ f ∈ fs, f ≠ [] ∧ (58 : UInt8) ∉ f

theorem fields_of_hextets {fs : List Bytes} (h : fs.all isHextet = true) : Fields fs := by
  intro f hf
  have := List.all_eq_true.1 h f hf
  simp only [isHextet, Bool.and_eq_true, decide_eq_true_eq] at this
  exact ⟨fun e => by simp [e] at this, fun hm => absurd (List.all_eq_true.1 this.2 58 hm) (by decide)⟩

theorem splitOn_join (f : Bytes) (fs : List Bytes) (h : Fields (f :: fs)) : splitOn 58 (join (f :: fs)) = f :: fs := by
  induction fs generalizing f with
  | nil => simpa [join, colons] using splitOn_nosep 58 f (by simpa using (h f (by simp)).2)
  | cons g gs ih =>
    have := ih g fun x hx => h x (List.mem_cons_of_mem _ hx)
    simp only [join, colons, List.flatMap_cons, List.cons_append] at this ⊢
    rw [splitOn_append, this, splitOn_nosep 58 f (by simpa using (h f (by simp)).2)]
    rfl

theorem splitDouble_cons (c : UInt8) (t : Bytes) (hc : c ≠ 58) :
    splitDouble (c :: t) = (splitDouble t).map fun (l, r) => (c :: l, r) := by
  cases t with
  | nil => rfl
  | cons b t => simp [splitDouble, hc]

theorem splitDouble_colon (c : UInt8) (t : Bytes) (hc : c ≠ 58) :
    splitDouble (58 :: c :: t) = (splitDouble (c :: t)).map fun (l, r) => (58 :: l, r) := by
  simp [splitDouble, hc]

theorem splitDouble_field (f X : Bytes) (h : (58 : UInt8) ∉ f) :
    splitDouble (f ++ X) = (splitDouble X).map fun (l, r) => (f ++ l, r) := by
  induction f with
  | nil => rw [List.nil_append]; cases splitDouble X <;> rfl
  | cons c f ih =>
    rw [List.mem_cons, not_or] at h
    rw [List.cons_append, splitDouble_cons c _ (Ne.symm h.1), ih h.2]
    cases splitDouble X <;> rfl

theorem splitDouble_colons (fs : List Bytes) (X : Bytes) (h : Fields fs) :
    splitDouble (colons fs ++ X) = (splitDouble X).map fun (l, r) => (colons fs ++ l, r) := by
  induction fs with
  | nil => show splitDouble X = _; cases splitDouble X <;> rfl
  | cons f fs ih =>
    obtain ⟨hne, h58⟩ := h f (by simp)
    obtain ⟨c, f, rfl⟩ := List.exists_cons_of_ne_nil hne
    have hc : c ≠ 58 := fun e => h58 (e ▸ List.mem_cons_self)
    simp only [colons, List.flatMap_cons, List.cons_append, List.append_assoc] at ih ⊢
    rw [splitDouble_colon c _ hc, ← List.cons_append, splitDouble_field _ _ h58, ih fun x hx => h x (List.mem_cons_of_mem _ hx)]
    cases splitDouble X <;> rfl

/-- the first "::" after some groups comes after all of them -/
theorem splitDouble_join (fs : List Bytes) (X : Bytes) (h : Fields fs) :
    splitDouble (join fs ++ X) = (splitDouble X).map fun (l, r) => (join fs ++ l, r) := by
  cases fs with
  | nil => show splitDouble X = _; cases splitDouble X <;> rfl
  | cons f fs =>
    rw [join, List.append_assoc, splitDouble_field _ _ (h f (by simp)).2,
      splitDouble_colons fs X fun x hx => h x (List.mem_cons_of_mem _ hx)]
    cases splitDouble X <;> simp

/-- what the scanner returns on `s`, having counted `g` groups and seen "::" or not (`sd`) before `s` -/
def Acc (s : Bytes) (g : Nat) (sd : Bool) (g' : Nat) (sd' : Bool) : Prop :=
  ∃ ls, ls.all isHextet = true ∧
    ((s = join ls ∧ g' = g + ls.length ∧ sd' = sd) ∨
      ∃ rs, rs.all isHextet = true ∧ s = join ls ++ 58 :: 58 :: join rs ∧ g' = g + ls.length + rs.length ∧
        sd = false ∧ sd' = true)

theorem join_singleton (f : Bytes) : join [f] = f := by simp [join, colons]

theorem join_snoc {fs : List Bytes} (h : fs ≠ []) (V : Bytes) : join fs ++ 58 :: V = join (fs ++ [V]) := by
  obtain ⟨f, fs, rfl⟩ := List.exists_cons_of_ne_nil h
  simp [join, colons]

theorem join_cons (p f : Bytes) (fs : List Bytes) : join (p :: f :: fs) = p ++ 58 :: join (f :: fs) := by
  simp [join, colons]

theorem acc_group {p t : Bytes} {c : UInt8} {g g' : Nat} {sd sd' : Bool} (hp : isHextet p = true)
    (hc : c ≠ 58) (h : Acc (c :: t) (g + 1) sd g' sd') : Acc (p ++ 58 :: c :: t) g sd g' sd' := by
  obtain ⟨ls, hl, h⟩ := h
  cases ls with
  | nil =>
    -- the input would be empty or start with "::"
    rcases h with ⟨e, -⟩ | ⟨rs, -, e, -⟩
    · cases e
    · cases e; exact absurd rfl hc
  | cons f fs =>
    refine ⟨p :: f :: fs, by simp [hp, hl], ?_⟩
    rw [join_cons, List.length_cons]
    rcases h with ⟨e, hg, hsd⟩ | ⟨rs, hrs, e, hg, hsd⟩
    · exact .inl ⟨by rw [e], by omega, hsd⟩
    · exact .inr ⟨rs, hrs, by rw [e]; simp, by omega, hsd⟩

theorem acc_double {ls : List Bytes} {t : Bytes} {g g' : Nat} {sd' : Bool} (hl : ls.all isHextet = true)
    (h : Acc t (g + ls.length) true g' sd') : Acc (join ls ++ 58 :: 58 :: t) g false g' sd' := by
  obtain ⟨rs, hrs, ⟨e, hg, hsd⟩ | ⟨_, _, _, _, hsd, _⟩⟩ := h
  · exact ⟨ls, hl, .inr ⟨rs, hrs, by rw [e], hg, rfl, hsd⟩⟩
  · cases hsd

theorem hextet_snoc {p : Bytes} {c : UInt8} (hp : p = [] ∨ isHextet p = true) (hl : p.length < 4) (hc : ishex c = true) :
    isHextet (p ++ [c]) = true := by
  rw [ishex_eq] at hc
  rcases hp with rfl | hp
  · simp [isHextet, hc]
  · simp only [isHextet, Bool.and_eq_true, decide_eq_true_eq, List.length_append, List.all_append] at hp ⊢
    simp [hp, hc]; omega

/-- `p`: the digits of the group the scanner is in; the group is counted in `g` when its first digit is read -/
theorem loop_spec (st : HxSt) (g : Nat) (sd : Bool) (s : Bytes) (g' : Nat) (sd' : Bool) :
    hextetsLoop false st g sd s = some (g', sd') →
    match st with
    | .inGroup n => ∀ p g0, isHextet p = true → p.length = n → g = g0 + 1 → Acc (p ++ s) g0 sd g' sd'
    | .afterColon => (∀ t, s ≠ 58 :: t) → Acc s g sd g' sd'
    | _ => Acc s g sd g' sd' := by
  fun_induction hextetsLoop false st g sd s with
  | case2 | case4 | case5 | case7 | case9 | case10 | case12 => exact nofun
  | case8 _ _ _ _ _ _ hatc => cases hatc
  | case1 st g sd =>
    intro h
    cases h
    have : Acc [] g' sd' g' sd' := ⟨[], rfl, .inl ⟨rfl, rfl, rfl⟩⟩
    cases st with
    | inGroup n => exact fun p g0 hp _ hg => ⟨[p], by simp [hp], .inl ⟨by rw [join_singleton, List.append_nil], hg, rfl⟩⟩
    | afterColon => exact fun _ => this
    | _ => exact this
  | case3 st g sd c hc c2 t hc2 hsd ih =>
    -- "::"
    intro h
    cases eq_of_beq hc
    cases eq_of_beq hc2
    rw [Bool.or_eq_true, not_or, Bool.not_eq_true] at hsd
    cases hsd.1
    have := ih h
    cases st with
    | inGroup n => exact fun p g0 hp hl hg => join_singleton p ▸ acc_double (ls := [p]) (by simp [hp]) (hg ▸ this)
    | afterColon => exact fun ht => absurd rfl (ht _)
    | start => exact acc_double (ls := []) rfl this
    | afterDouble => exact absurd rfl hsd.2
  | case6 st g sd c hc c2 t hc2 hst hx ih =>
    -- a single ':' ends the group `p`
    intro h
    cases eq_of_beq hc
    have hc2 : c2 ≠ 58 := by simpa using hc2
    have := ih h fun _ e => hc2 (List.cons.inj e).1
    cases st with
    | inGroup n => exact fun p g0 hp hl hg => acc_group hp hc2 (hg ▸ this)
    | afterColon => exact fun ht => absurd rfl (ht _)
    | _ => simp at hst
  | case11 g sd c t hc hx n hn ih =>
    intro h p g0 hp hl hg
    have := ih h (p ++ [c]) g0 (hextet_snoc (.inr hp) (by omega) (by simpa using hx)) (by simp [hl]) hg
    rwa [List.append_assoc] at this
  | case13 st g sd c t hc hx hst ih =>
    intro h
    have := ih h [c] g (hextet_snoc (.inl rfl) (by decide) (by simpa using hx)) rfl rfl
    cases st with
    | inGroup n => exact absurd rfl (hst n)
    | afterColon => exact fun _ => this
    | _ => exact this

theorem hextets_res {s : Bytes} {g : Nat} {sd : Bool} (h : parseIPv6Hextets s false = some (g, sd)) :
    Acc s 0 false g sd := loop_spec .start 0 false s g sd h

theorem pieces_fields (tail : Bool) {fs : List Bytes} (hne : fs ≠ []) (hf : Fields fs) :
    pieces tail (join fs) =
      if fs.all isHextet then some fs.length
      else if tail && fs.dropLast.all isHextet && (fs.getLast?.map isStrictQuad).getD false then some (fs.length + 1)
      else none := by
  obtain ⟨f, fs, rfl⟩ := List.exists_cons_of_ne_nil hne
  have he : (join (f :: fs)).isEmpty = false := by
    obtain ⟨c, f, rfl⟩ := List.exists_cons_of_ne_nil (hf f (by simp)).1
    rfl
  rw [pieces, he, splitOn_join f fs hf]
  rfl

theorem pieces_join (tail : Bool) (fs : List Bytes) (h : fs.all isHextet = true) :
    pieces tail (join fs) = some fs.length := by
  cases fs with
  | nil => rfl
  | cons f fs => rw [pieces_fields tail (by simp) (fields_of_hextets h), if_pos h]

/-- a dotted quad has a '.', so it is no group of hex digits -/
theorem quad_not_hextet (V : Bytes) (hV : isStrictQuad V = true) : isHextet V = false := by
  apply Bool.eq_false_iff.2
  intro hh
  simp only [isHextet, Bool.and_eq_true] at hh
  have h46 : (46 : UInt8) ∉ V := fun hm => absurd (List.all_eq_true.1 hh.2 46 hm) (by decide)
  simp [isStrictQuad, splitOn_nosep 46 V (by simpa using h46)] at hV

theorem pieces_join_v4 (fs : List Bytes) (V : Bytes) (h : fs.all isHextet = true) (hV : isStrictQuad V = true)
    (hf : Fields (fs ++ [V])) : pieces true (join (fs ++ [V])) = some (fs.length + 2) := by
  simp [pieces_fields true (by simp) hf, quad_not_hextet V hV, h, hV]

theorem spec_of_double (ls : List Bytes) (R : Bytes) (k : Nat) (hl : ls.all isHextet = true)
    (hR : pieces true R = some k) (hk : ls.length + k ≤ 7) : ipv6TextSpec (join ls ++ 58 :: 58 :: R) = true := by
  simp [ipv6TextSpec, splitDouble_join ls _ (fields_of_hextets hl), splitDouble, pieces_join false ls hl, hR, hk]

theorem spec_of_plain (fs : List Bytes) (hf : Fields fs) (h : pieces true (join fs) = some 8) :
    ipv6TextSpec (join fs) = true := by
  have := splitDouble_join fs [] hf
  rw [List.append_nil] at this
  simp [ipv6TextSpec, this, splitDouble, h]

theorem hextets_spec (addr : Bytes) (g : Nat) (sd : Bool) (h : parseIPv6Hextets addr false = some (g, sd))
    (hg : groupsOK sd g = true) : ipv6TextSpec addr = true := by
  obtain ⟨ls, hl, ⟨rfl, rfl, rfl⟩ | ⟨rs, hrs, rfl, rfl, -, rfl⟩⟩ := hextets_res h
  · have h8 : ls.length = 8 := by simpa [groupsOK] using hg
    exact spec_of_plain ls (fields_of_hextets hl) (by rw [pieces_join true ls hl, h8])
  · have hlt : ls.length + rs.length < 8 := by simpa [groupsOK] using hg
    exact spec_of_double ls _ _ hl (pieces_join true rs hrs) (by omega)

theorem not_isDigitB (c : UInt8) : (c < 48 || c > 57) = !isDigitB c := by
  rw [Bool.eq_iff_iff]
  simp [isDigitB, UInt8.lt_iff_toNat_lt]

theorem v4Digits_spec (val digits : Nat) (s : Bytes) (d : Nat) (rest : Bytes) :
    v4Digits val digits s = some (d, rest) →
    ∃ ds, s = ds ++ rest ∧ ds.all isDigitB = true ∧ d = digits + ds.length ∧ (digits ≤ 3 → d ≤ 3) ∧
      (val ≤ 255 → decFrom val ds ≤ 255) := by
  fun_induction v4Digits val digits s with
  | case2 | case3 => exact nofun
  | case1 | case5 =>
    intro h
    cases h
    exact ⟨[], rfl, rfl, rfl, id, id⟩
  | case4 val digits c t hdg val' hval hdig ih =>
    intro h
    obtain ⟨ds, e, a1, a2, a3, a4⟩ := ih h
    rw [not_isDigitB, Bool.not_eq_true', Bool.not_eq_false] at hdg
    have hc48 : 48 ≤ c.toNat := by simp [isDigitB] at hdg; exact hdg.1
    have hkv := (byte_digit c).2 hc48
    refine ⟨c :: ds, by rw [e]; rfl, by simp [hdg, a1], by simp; omega, fun _ => a3 (by omega), fun _ => ?_⟩
    rw [decFrom_cons, show 10 * val + (c.toNat - 48) = val' by omega]
    exact a4 (by omega)

theorem v4_octet {c0 : UInt8} {tl : Bytes} {d : Nat} {rest : Bytes} (hv : v4Digits 0 0 (c0 :: tl) = some (d, rest))
    (hd : ¬ (d == 0) = true) (hz : ¬ (decide (d > 1) && c0 == 48) = true) :
    ∃ ds, c0 :: tl = ds ++ rest ∧ ds.all isDigitB = true ∧ isStrictOctet ds = true := by
  obtain ⟨ds, e, a1, a2, -, a4⟩ := v4Digits_spec 0 0 _ d rest hv
  cases ds with
  | nil => simp [a2] at hd
  | cons a t =>
    cases e
    refine ⟨c0 :: t, rfl, a1, ?_⟩
    simp only [isStrictOctet, isDecField, List.isEmpty_cons, Bool.not_false, Bool.true_and, a1, Bool.and_eq_true,
      decide_eq_true_eq, Bool.or_eq_true, beq_iff_eq, bne_iff_ne, ne_eq, List.head?_cons, Option.some.injEq,
      List.length_cons, a2, not_and] at hz ⊢
    exact ⟨a4 (by omega), Decidable.or_iff_not_imp_left.2 fun hl => hz (by omega)⟩

theorem validIPv4Loop_spec (n : Nat) (s : Bytes) : validIPv4Loop n s = true →
    (splitOn 46 s).length = n ∧ (splitOn 46 s).all isStrictOctet = true ∧ (58 : UInt8) ∉ s := by
  induction n, s using validIPv4Loop.induct with
  | case1 | case2 => exact nofun
  | case3 n c tl hv => intro h; simp [validIPv4Loop, hv] at h
  | case4 n c tl d rest hd hv => intro h; simp [validIPv4Loop, hv, hd] at h
  | case5 n c tl d rest hd hz hv => intro h; simp [validIPv4Loop, hv, hd, hz] at h
  | case8 n c tl d rest hd hz hn hr hv => intro h; simp [validIPv4Loop, hv, hd, hz, hn] at h
  | case6 n c tl d rest hd hz hn hv =>
    intro h
    simp [validIPv4Loop, hv, hd, hz, hn] at h
    obtain ⟨ds, e, hdg, ho⟩ := v4_octet hv hd hz
    rw [e, h, List.append_nil, splitOn_nosep 46 ds (by simpa using digits_not_mem ds hdg 46 rfl)]
    exact ⟨by simpa using hn, by simp [ho], digits_not_mem ds hdg 58 rfl⟩
  | case7 n c tl d hd hz hn rest' hv ih =>
    intro h
    simp [validIPv4Loop, hv, hd, hz, hn] at h
    obtain ⟨ds, e, hdg, ho⟩ := v4_octet hv hd hz
    obtain ⟨b1, b2, b3⟩ := ih h
    rw [e, splitOn_append, splitOn_nosep 46 ds (by simpa using digits_not_mem ds hdg 46 rfl)]
    refine ⟨by simp [b1], by simp [ho, b2], ?_⟩
    simp only [List.mem_append, List.mem_cons, not_or]
    exact ⟨digits_not_mem ds hdg 58 rfl, by decide, b3⟩

theorem validIPv4_spec (s : Bytes) (h : validIPv4 s = true) : isStrictQuad s = true ∧ (58 : UInt8) ∉ s := by
  obtain ⟨a, b, c⟩ := validIPv4Loop_spec 4 s h
  exact ⟨by simp [isStrictQuad, a, b], c⟩

theorem lastIndexOf_none_mem (c : UInt8) (b : Bytes) : lastIndexOf c b = none → c ∉ b := by
  fun_induction lastIndexOf c b with
  | case1 => exact fun _ => List.not_mem_nil
  | case2 | case3 => exact nofun
  | case4 a t ht hac ih => exact fun _ => List.not_mem_cons_of_ne_of_not_mem (fun e => hac (e ▸ beq_self_eq_true a)) (ih ht)

theorem lastIndexOf_some (c : UInt8) (b : Bytes) (i : Nat) : lastIndexOf c b = some i →
    b = b.take i ++ c :: b.drop (i + 1) ∧ c ∉ b.drop (i + 1) := by
  fun_induction lastIndexOf c b generalizing i with
  | case1 | case4 => exact nofun
  | case2 a t j ht ih =>
    intro h
    cases h
    exact ⟨congrArg (a :: ·) (ih j ht).1, (ih j ht).2⟩
  | case3 a t ht hac =>
    intro h
    cases h
    cases eq_of_beq hac
    exact ⟨rfl, lastIndexOf_none_mem c t ht⟩


/-- `A ++ ":" ++ V` with an IPv4 address `V`, the scanner having read `A` less a final ':' -/
theorem v4_tail_spec (A V : Bytes) (hV : isStrictQuad V = true) (h58 : (58 : UInt8) ∉ V) (g : Nat) (sd : Bool)
    (hp : parseIPv6Hextets (if (A.getLast? == some 58) = true then A.dropLast else A) false = some (g, sd))
    (hc : (sd && A.getLast? == some 58) = false)
    (hg : groupsOK (sd || A.getLast? == some 58) (g + 2) = true) : ipv6TextSpec (A ++ 58 :: V) = true := by
  have hf : ∀ {fs}, fs.all isHextet = true → Fields (fs ++ [V]) := fun h f hm => by
    rcases List.mem_append.1 hm with hm | hm
    · exact fields_of_hextets h f hm
    · cases List.mem_singleton.1 hm
      exact ⟨fun e => absurd (e ▸ hV) (by decide), h58⟩
  have hpV {fs} (h : fs.all isHextet = true) := pieces_join_v4 fs V h hV (hf h)
  by_cases hat : A.getLast? = some 58
  · -- "::" right in front of the IPv4 part
    obtain ⟨L, rfl⟩ := List.getLast?_eq_some_iff.1 hat
    simp only [hat, beq_self_eq_true, if_true, Bool.and_true, Bool.or_true, List.dropLast_concat] at hp hc hg
    subst hc
    obtain ⟨ls, hl, ⟨rfl, rfl, -⟩ | ⟨_, _, _, _, _, e⟩⟩ := hextets_res hp
    · have hlt : ls.length < 6 := by simpa [groupsOK] using hg
      rw [List.append_assoc]
      exact spec_of_double ls V 2 hl (join_singleton V ▸ hpV (fs := []) rfl) (by omega)
    · cases e
  · -- a single ':' in front of the IPv4 part
    have hat' : (A.getLast? == some 58) = false := by simpa using hat
    simp only [hat', Bool.false_eq_true, if_false, Bool.or_false] at hp hg
    obtain ⟨ls, hl, ⟨rfl, rfl, rfl⟩ | ⟨rs, hrs, rfl, rfl, -, rfl⟩⟩ := hextets_res hp
    · have h6 : ls.length = 6 := by simpa [groupsOK] using hg
      rw [join_snoc (by rintro rfl; cases h6)]
      exact spec_of_plain _ (hf hl) (by rw [hpV hl, h6])
    · have hlt : ls.length + rs.length < 6 := by simpa [groupsOK] using hg
      have hne : rs ≠ [] := by rintro rfl; exact hat (by simp [join])
      rw [List.append_assoc, List.cons_append, List.cons_append, join_snoc hne]
      exact spec_of_double ls _ _ hl (hpV hrs) (by omega)

theorem validIPv6Addr_spec (addr : Bytes) (h : validIPv6Addr addr = true) : ipv6TextSpec addr = true := by
  unfold validIPv6Addr at h
  split at h
  · cases h
  split at h
  · -- embedded IPv4
    split at h
    · cases h
    rename_i lc hlc
    split at h
    · cases h
    split at h
    · cases h
    rename_i hv4
    obtain ⟨hq, hn58⟩ := validIPv4_spec _ (by simpa using hv4)
    dsimp only at h
    split at h
    · cases h
    rename_i g sd hp
    split at h
    · cases h
    rename_i hc
    rw [(lastIndexOf_some 58 addr lc hlc).1]
    exact v4_tail_spec _ _ hq hn58 g sd hp (by simpa using hc) h
  · split at h
    · cases h
    · exact hextets_spec addr _ _ ‹_› h

end Fh.Proofs.IPv6
