/-
Proofs about Model/ClientConn.lean: a round trip on a clean connection against a well-behaved server returns the
server's own response and leaves a clean connection whenever it releases it; the pool invariant; pipelined reading.
-/
import FhVerif.Model.ClientConn

namespace Fh.Proofs.ClientConn
open Fh Fh.Model.CC

/-- On a clean connection (`wire = []`), against a well-behaved server, with the repaired decision
    `requireDrained`: (1) if the connection is released it is clean again — every byte the server
    produced for this request was consumed and nothing arrives later; (2) a successful call returns bytes of the
    server's response to this very request: head ++ delivered body is a prefix of it, and all of it unless the body
    was streamed.  (`headSkips` plays no part here: the response to a HEAD request has no body to be left behind.) -/
theorem rt_clean (F : Framing) (cfg : Cfg) (hdr : cfg.requireDrained = true)
    (c : Call) (resp : Bytes) (arrive : Nat) (later : Bool) (hwf : wfResp F c.isHead resp) :
    ((roundTrip F cfg [] c resp arrive later).release = true → (roundTrip F cfg [] c resp arrive later).rest = []) ∧
    (∀ hd body, (roundTrip F cfg [] c resp arrive later).out = .ok hd body →
      hd ++ body <+: resp ∧ (c.stream = false → hd ++ body = resp)) := by
  rcases hwf with ⟨hl, bl, cl, hlen, hparse, hshort⟩
  generalize hr : roundTrip F cfg [] c resp arrive later = r
  unfold roundTrip at hr
  by_cases hw : c.writeFails = true
  · rw [if_pos hw] at hr; subst hr; exact ⟨nofun, nofun⟩
  rw [if_neg hw] at hr
  dsimp only [List.nil_append] at hr
  by_cases ha : arrive < hl
  · rw [hshort arrive ha] at hr; subst hr; exact ⟨nofun, nofun⟩
  rw [hparse (resp.take arrive) (List.take_prefix_take_left (by omega))] at hr
  dsimp only at hr
  rw [List.take_take, Nat.min_eq_left (by omega), List.drop_take] at hr
  -- the head is `resp.take hl`; of the body `resp.drop hl` the first `arrive - hl` bytes are there
  generalize hB : resp.drop hl = B at hr
  generalize hA : B.take (arrive - hl) = after at hr
  have hresp : resp.take hl ++ B = resp := hB ▸ List.take_append_drop hl resp
  have hBlen : B.length = resp.length - hl := hB ▸ List.length_drop
  have hbl : B.length ≤ bl := by split at hlen <;> omega
  have hpre : ∀ k, resp.take hl ++ after.take k <+: resp := fun k => by
    have := (List.prefix_append_right_inj (resp.take hl)).mpr (List.take_prefix (min k (arrive - hl)) B)
    rwa [hresp, ← List.take_take, hA] at this
  -- a complete body means that everything has arrived and nothing comes later
  have hfull : bl ≤ after.length → after = B ∧ (if later = true then resp.drop arrive else []) = [] := fun h => by
    rw [← hA, List.length_take] at h
    refine ⟨hA ▸ List.take_of_length_le (by omega), ?_⟩
    split
    · exact List.drop_eq_nil_of_le (by omega)
    · rfl
  -- in every successful branch the body delivered is a prefix of `after`; released connections have had the whole body
  have done : ∀ {k m rel}, bl ≤ after.length → bl ≤ m → (c.stream = false → k = bl) →
      (⟨.ok (resp.take hl) (after.take k), rel, after.drop m ++ if later = true then resp.drop arrive else []⟩ : RT) = r →
      (r.release = true → r.rest = []) ∧
        ∀ hd body, r.out = .ok hd body → hd ++ body <+: resp ∧ (c.stream = false → hd ++ body = resp) := by
    rintro k m rel hge hm hk rfl
    obtain ⟨h1, h2⟩ := hfull hge
    refine ⟨fun _ => ?_, fun hd body e => ?_⟩
    · rw [h2, List.append_nil]; exact List.drop_eq_nil_of_le (h1 ▸ Nat.le_trans hbl hm)
    · cases e
      refine ⟨hpre k, fun hs => ?_⟩
      rw [hk hs, h1, List.take_of_length_le hbl, hresp]
  by_cases hh : (c.isHead && cfg.headSkips) = true
  · -- HEAD: the head is the whole response, the client does not look for a body
    rw [if_pos hh] at hr
    rw [Bool.and_eq_true] at hh
    rw [if_pos hh.1] at hlen
    subst hr
    have hB0 : B = [] := List.eq_nil_of_length_eq_zero (by omega)
    refine ⟨fun _ => ?_, fun hd body e => ?_⟩
    · rw [← hA, hB0, List.take_nil, List.nil_append]
      split
      · exact List.drop_eq_nil_of_le (by omega)
      · rfl
    · cases e
      rw [List.append_nil, hlen, List.take_length]
      exact ⟨List.prefix_refl _, fun _ => rfl⟩
  rw [if_neg hh] at hr
  rcases Bool.eq_false_or_eq_true c.stream with hs | hs
  case inr =>
    -- buffered body
    rw [hs, Bool.not_false, if_pos rfl] at hr
    by_cases hl : decide (0 < cfg.maxBody ∧ cfg.maxBody < bl) = true
    · rw [if_pos hl] at hr; subst hr; exact ⟨nofun, nofun⟩
    rw [if_neg hl] at hr
    by_cases hge : after.length < bl
    · rw [if_pos hge] at hr; subst hr; exact ⟨nofun, nofun⟩
    · rw [if_neg hge] at hr; exact done (Nat.le_of_not_lt hge) (Nat.le_refl _) (fun _ => rfl) hr
  rw [hs, Bool.not_true, if_neg nofun] at hr
  have nostream : ∀ {p : Prop}, c.stream = false → p := fun e => nomatch hs.symm.trans e
  by_cases hl : decide (0 < cfg.maxBody ∧ cfg.maxBody < bl) = true
  · -- really streamed: the caller reads `k` bytes and closes; released only if that was the whole body
    rw [hl, Bool.not_true, if_neg nofun] at hr
    subst hr
    refine ⟨fun hrel => ?_, fun hd body e => by cases e; exact ⟨hpre _, nostream⟩⟩
    simp only [hdr, Bool.not_true, Bool.or_false, Bool.and_eq_true, beq_iff_eq] at hrel
    obtain ⟨h1, h2⟩ := hfull (by omega)
    rw [h2, List.append_nil, hrel.2, h1]
    exact List.drop_eq_nil_of_le (by omega)
  · -- StreamBody, but the body fits MaxResponseBodySize: read completely first
    rw [Bool.not_eq_true] at hl
    rw [hl, Bool.not_false, if_pos rfl] at hr
    by_cases hge : after.length < bl
    · rw [if_pos hge] at hr; subst hr; exact ⟨nofun, nofun⟩
    · rw [if_neg hge, List.take_take] at hr; exact done (Nat.le_of_not_lt hge) (Nat.le_refl _) nostream hr

def wfEvent (F : Framing) (e : Event) : Prop := wfResp F e.call.isHead e.resp

structure PInv (s : State) : Prop where
  clean : ∀ c ∈ s.pool, c.wire = []
  own : ∀ l ∈ s.log, ∀ hd body, l.out = .ok hd body → hd ++ body <+: l.resp

theorem pinv_init : PInv init := by
  constructor <;> simp [init]

/-- after a call on a clean connection: the connections left in the pool, plus the one used if it is released -/
theorem PInv.next {s : State} (h : PInv s) {base : List Conn} (hb : ∀ c ∈ base, c ∈ s.pool) (id n tag : Nat) {resp : Bytes}
    {r : RT} (hrel : r.release = true → r.rest = []) (hown : ∀ hd body, r.out = .ok hd body → hd ++ body <+: resp) :
    PInv ⟨if r.release then base ++ [⟨id, r.rest⟩] else base, n, s.log ++ [⟨tag, resp, r.out⟩]⟩ where
  clean c hc := by
    split at hc
    · rcases List.mem_append.mp hc with h1 | h1
      · exact h.clean c (hb c h1)
      · cases List.mem_singleton.mp h1; exact hrel ‹_›
    · exact h.clean c (hb c hc)
  own l hl hd body hout := by
    rcases List.mem_append.mp hl with h1 | h1
    · exact h.own l h1 hd body hout
    · cases List.mem_singleton.mp h1; exact hown hd body hout

theorem step_pinv {F : Framing} {cfg : Cfg} (hdr : cfg.requireDrained = true) {s s' : State} {e : Event}
    (hwf : wfEvent F e) (h : PInv s) (hs : step F cfg s e = some s') : PInv s' := by
  unfold step at hs
  have ⟨hrel, hown⟩ := rt_clean F cfg hdr e.call e.resp e.arrive e.later hwf
  have hown := fun hd body e => (hown hd body e).1
  split at hs
  · cases hs; exact h.next (fun _ => id) _ _ _ hrel hown
  · split at hs <;> cases hs
    next i c0 hg =>
    rw [h.clean c0 (List.mem_of_getElem? hg)]
    exact h.next (fun _ => List.mem_of_mem_eraseIdx) _ _ _ hrel hown

theorem run_pinv {F : Framing} {cfg : Cfg} (hdr : cfg.requireDrained = true) {evs : List Event} {s s' : State}
    (hwf : ∀ e ∈ evs, wfEvent F e) (h : PInv s) (hr : run F cfg s evs = some s') : PInv s' := by
  induction evs generalizing s with
  | nil => cases hr; exact h
  | cons e es ih =>
    obtain ⟨s1, hs, hr⟩ := Option.bind_eq_some_iff.mp hr
    exact ih (fun e' he' => hwf e' (List.mem_cons_of_mem _ he')) (step_pinv hdr (hwf e List.mem_cons_self) h hs) hr

/-- outcome i is a success carrying exactly response i -/
def ownAll : List Outcome → List (Bool × Bytes) → Prop
  | [], [] => True
  | o :: os, r :: rs => (∃ hd body, o = .ok hd body ∧ hd ++ body = r.2) ∧ ownAll os rs
  | _, _ => False

theorem readOne_exact (F : Framing) (cfg : Cfg) (hhs : cfg.headSkips = true) (isHead : Bool) (resp following : Bytes)
    (hwf : wfResp F isHead resp) :
    ∃ hd body, readOne F cfg (resp ++ following) isHead = (.ok hd body, resp.length) ∧ hd ++ body = resp := by
  rcases hwf with ⟨hl, bl, cl, hlen, hparse, _⟩
  have hle : hl ≤ resp.length := by split at hlen <;> omega
  unfold readOne
  rw [hparse (resp ++ following) ((List.take_prefix _ _).trans (List.prefix_append _ _))]
  simp only
  have htake : (resp ++ following).take hl = resp.take hl := List.take_append_of_le_length hle
  have hdrop : (resp ++ following).drop hl = resp.drop hl ++ following := List.drop_append_of_le_length hle
  by_cases hh : isHead = true
  · simp only [hh, hhs, Bool.and_self, if_true] at hlen ⊢
    refine ⟨resp.take hl, [], ?_, ?_⟩
    · rw [htake, hlen]
    · rw [hlen]; simp
  · simp only [hh, Bool.false_eq_true, if_false, Bool.false_and] at hlen ⊢
    have hB : (resp.drop hl).length = bl := by rw [List.length_drop]; omega
    rw [htake, hdrop]
    have : ¬ (resp.drop hl ++ following).length < bl := by rw [List.length_append, hB]; omega
    rw [if_neg this]
    refine ⟨resp.take hl, resp.drop hl, ?_, List.take_append_drop _ _⟩
    rw [List.take_left' hB, hlen]

/-- reading the responses of a pipelined connection in order yields, for the i-th request written, exactly the
    i-th response the server sent (HEAD responses included) -/
theorem readAll_own (F : Framing) (cfg : Cfg) (hhs : cfg.headSkips = true) (rs : List (Bool × Bytes)) (extra : Bytes)
    (hwf : ∀ r ∈ rs, wfResp F r.1 r.2) :
    ownAll (readAll F cfg (streamOf rs ++ extra) (rs.map (·.1))) rs := by
  induction rs with
  | nil => simp [readAll, ownAll]
  | cons r rest ih =>
    simp only [streamOf, List.map_cons, readAll, List.append_assoc]
    rcases readOne_exact F cfg hhs r.1 r.2 (streamOf rest ++ extra) (hwf r (List.mem_cons_self)) with ⟨hd, body, h1, h2⟩
    rw [h1]
    simp only [ownAll]
    refine ⟨⟨hd, body, rfl, h2⟩, ?_⟩
    rw [List.drop_left' rfl]
    exact ih (fun r' hr' => hwf r' (List.mem_cons_of_mem _ hr'))

end Fh.Proofs.ClientConn
