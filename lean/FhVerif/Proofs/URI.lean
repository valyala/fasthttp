/-
For C27.  What appendQuotedPath writes decodes back, has no delimiter, and normalises to the path it came from; the
path/query/fragment split and the authority split invert the serialisation; a successful URI.parse bounds the bytes
of every component.  Together: FullURI() and RequestURI() re-parse to the same URI.
-/
import FhVerif.Model.URI
import FhVerif.Props.C26
import FhVerif.Props.C32
import FhVerif.Proofs.Args

namespace Fh.Proofs.URI
open Fh Fh.Model Fh.Props Fh.Proofs.NormPath Fh.Proofs.ByteClass

/-- what appendQuotedPath writes for one byte is free of '?', '#' and control bytes, and a byte written as itself
    is not '%' (the escape table is net/url's path class, `C32.quotedPath_eq`) -/
theorem quotePath_byte (c : UInt8) :
    (∀ x ∈ quotePathByte c, x ≠ 63 ∧ x ≠ 35 ∧ isCTL x = false) ∧ (quotedPathShouldEscape c = false → c ≠ 37) := by
  revert c
  simp only [quotePathByte, C32.quotedPath_eq]
  exact forall_byte (by decide +kernel)

theorem decode_quoteByte (c : UInt8) (rest : Bytes) :
    decodeNoPlus (quotePathByte c ++ rest) = c :: decodeNoPlus rest := by
  unfold quotePathByte
  split
  · obtain ⟨h1, h2, h3⟩ := Args.hex_pair c
    rw [List.cons_append, List.cons_append, List.cons_append, List.nil_append, decodeNoPlus.eq_2,
      (beq_eq_false_iff_ne).2 h1, (beq_eq_false_iff_ne).2 h2, h3]
    rfl
  · rename_i he
    exact decodeNoPlus_other c rest ((quotePath_byte c).2 (Bool.eq_false_iff.2 he))

theorem decode_quotePath (p : Bytes) : decodeNoPlus (quotePath p) = p := by
  unfold quotePath
  split
  · rename_i h; rw [eq_of_beq h]; decide
  · rename_i h; clear h
    induction p with
    | nil => rfl
    | cons c t ih => rw [List.flatMap_cons, decode_quoteByte, ih]

theorem quotePath_clean (p : Bytes) : ∀ x ∈ quotePath p, x ≠ 63 ∧ x ≠ 35 ∧ isCTL x = false := by
  unfold quotePath
  split
  · intro x hx; rw [List.mem_singleton.1 hx]; decide
  · intro x hx
    obtain ⟨c, _, hc⟩ := List.mem_flatMap.1 hx
    exact (quotePath_byte c).1 x hc

theorem quotePath_slash (rest : Bytes) : quotePath (47 :: rest) = 47 :: rest.flatMap quotePathByte := by
  have h42 : ((47 :: rest : Bytes) == [42]) = false := by
    cases rest <;> rfl
  have h47 : quotedPathShouldEscape 47 = false := by
    rw [C32.quotedPath_eq]; rfl
  rw [quotePath, if_neg (by simp [h42]), List.flatMap_cons, quotePathByte, h47]
  rfl

theorem quoted_head (rest : Bytes) (h : rest.head? ≠ some 47) : (rest.flatMap quotePathByte).head? ≠ some 47 := by
  cases rest with
  | nil => exact h
  | cons c t =>
    rw [List.flatMap_cons, quotePathByte]
    split
    · simp
    · simpa using h

theorem unsegs_head (l : List Seg) : (unsegs l).head? ≠ some 47 → l = [] := by
  cases l with
  | nil => intro _; rfl
  | cons s t => intro h; simp [unsegs_cons] at h

theorem normalize_quote_fixed (src : Bytes) :
    normalizePath (quotePath (normalizePath src)) = normalizePath src := by
  obtain ⟨l, hl, wf⟩ := normalizePath_wf src
  rw [hl]
  refine normalizePath_of_wf _ l wf ?_ (decode_quotePath _)
  cases l with
  | nil => exact absurd rfl wf.ne
  | cons s t => rw [unsegs_cons, quotePath_slash]; rfl

theorem normalizePath_no_slash_slash (src rest : Bytes) (h : normalizePath src = 47 :: rest) : rest.head? ≠ some 47 := by
  obtain ⟨l, hl, wf⟩ := normalizePath_wf src
  cases l with
  | nil => exact absurd rfl wf.ne
  | cons s t =>
    rw [hl, unsegs_cons, List.cons.injEq] at h
    rw [← h.2]
    exact unsegs_second s t (wf.noSlash s List.mem_cons_self) wf.inner

/-- cutting  x ++ r  at the head of `r`, when `p` holds throughout `x` and fails there: the scanner idiom of
    splitPQF and splitHostURI -/
theorem cut_first (p : UInt8 → Bool) (x r : Bytes) (hx : ∀ a ∈ x, p a = true) (hr : ∀ a ∈ r.head?, p a = false) :
    (x ++ r).takeWhile p = x ∧ (x ++ r).dropWhile p = r := by
  rw [List.takeWhile_append_of_pos hx, List.dropWhile_append_of_pos hx]
  cases r with
  | nil => simp
  | cons a t => simp [hr a rfl]

theorem cut_opt (c : UInt8) (x y : Bytes) (hx : c ∉ x) :
    (x ++ if y.isEmpty then [] else c :: y).takeWhile (· != c) = x ∧
    ((x ++ if y.isEmpty then [] else c :: y).dropWhile (· != c)).drop 1 = y := by
  obtain ⟨h1, h2⟩ := cut_first (· != c) x (if y.isEmpty then [] else c :: y)
    (fun a ha => bne_iff_ne.2 fun h => hx (h ▸ ha)) (by cases y <;> simp)
  rw [h1, h2]
  cases y <;> exact ⟨rfl, rfl⟩

theorem splitPQF_tail (Q q h : Bytes) (h63 : (63 : UInt8) ∉ Q) (h35 : (35 : UInt8) ∉ Q) (hq : (35 : UInt8) ∉ q) :
    splitPQF (Q ++ (if q.isEmpty then [] else 63 :: q) ++ (if h.isEmpty then [] else 35 :: h)) = (Q, q, h) := by
  have h35' : (35 : UInt8) ∉ Q ++ if q.isEmpty then [] else 63 :: q := by
    rw [List.mem_append, not_or]
    refine ⟨h35, ?_⟩
    split
    · exact List.not_mem_nil
    · rw [List.mem_cons, not_or]; exact ⟨by decide, hq⟩
  obtain ⟨a1, a2⟩ := cut_opt 35 _ h h35'
  obtain ⟨b1, b2⟩ := cut_opt 63 Q q h63
  rw [splitPQF, a1, a2, b1, b2]

theorem mem_splitPQF (b : Bytes) :
    (∀ c ∈ (splitPQF b).2.1, c ∈ b ∧ c ≠ 35) ∧ (∀ c ∈ (splitPQF b).2.2, c ∈ b) := by
  unfold splitPQF
  constructor
  · intro c hc
    have h1 := (List.dropWhile_sublist _).subset (List.mem_of_mem_drop hc)
    exact ⟨(List.takeWhile_sublist _).subset h1, by simpa using List.all_eq_true.1 List.all_takeWhile c h1⟩
  · intro c hc
    exact (List.dropWhile_sublist _).subset (List.mem_of_mem_drop hc)

def schemeChar (c : UInt8) : Bool := isAlpha c || isDigit c || c == 43 || c == 45 || c == 46

theorem isAlpha_iff (c : UInt8) : isAlpha c = true ↔ 97 ≤ c.toNat ∧ c.toNat ≤ 122 ∨ 65 ≤ c.toNat ∧ c.toNat ≤ 90 := by
  simp only [isAlpha, Bool.or_eq_true, Bool.and_eq_true, decide_eq_true_eq, UInt8.le_iff_toNat_le]
  rfl

theorem schemeChar_iff (c : UInt8) : schemeChar c = true ↔
    97 ≤ c.toNat ∧ c.toNat ≤ 122 ∨ 65 ≤ c.toNat ∧ c.toNat ≤ 90 ∨ 48 ≤ c.toNat ∧ c.toNat ≤ 57 ∨
      c.toNat = 43 ∨ c.toNat = 45 ∨ c.toNat = 46 := by
  simp only [schemeChar, isAlpha, isDigit, Bool.or_eq_true, Bool.and_eq_true, decide_eq_true_eq, beq_iff_eq,
    UInt8.le_iff_toNat_le, ← UInt8.toNat_inj, UInt8.toNat_ofNat, or_assoc]

theorem isAlpha_toLower (c : UInt8) (h : isAlpha c = true) : isAlpha (toLower c) = true := by
  rw [isAlpha_iff, C32.toLower_toNat] at *
  split <;> omega

theorem schemeChar_toLower (c : UInt8) (h : schemeChar c = true) : schemeChar (toLower c) = true := by
  rw [schemeChar_iff, C32.toLower_toNat] at *
  split <;> omega

theorem schemeChar_plain (c : UInt8) (h : schemeChar c = true) : c ≠ 47 ∧ isCTL c = false := by
  rw [schemeChar_iff] at h
  simp only [isCTL, ne_eq, ← UInt8.toNat_inj, Bool.or_eq_false_iff, decide_eq_false_iff_not, beq_eq_false_iff_ne,
    UInt8.lt_iff_toNat_lt, UInt8.toNat_ofNat]
  omega

/-- a byte the host checks let through: '%', non-ASCII, or a byte shouldEscape does not flag -/
def okHostByte (c : UInt8) : Bool := c == 37 || c ≥ 128 || !shouldEscapeHost c

/-- `shouldEscapeHost` is a fixed list of bytes: none of the delimiters or control bytes is on it, every hex digit is -/
theorem okHostByte_facts (c : UInt8) :
    (okHostByte c = true → c ≠ 47 ∧ c ≠ 63 ∧ c ≠ 35 ∧ c ≠ 64 ∧ isCTL c = false) ∧
    (ishex c = true → okHostByte c = true) := by
  revert c
  simp only [ishex, C32.hex2int_ofNat]
  exact forall_byte (by decide +kernel)

theorem lower_nil : lowercaseBytes [] = [] := rfl

theorem validScheme_cons (a : UInt8) (t : Bytes) : isValidScheme (a :: t) = (isAlpha a && t.all schemeChar) := rfl

theorem validScheme_chars (s : Bytes) (h : isValidScheme s = true) : ∀ c ∈ s, schemeChar c = true := by
  cases s with
  | nil => cases h
  | cons a t =>
    rw [validScheme_cons, Bool.and_eq_true, List.all_eq_true] at h
    exact List.forall_mem_cons.2 ⟨by rw [schemeChar, h.1]; rfl, h.2⟩

theorem validScheme_lower (s : Bytes) (h : isValidScheme s = true) : isValidScheme (lowercaseBytes s) = true := by
  cases s with
  | nil => cases h
  | cons a t =>
    rw [validScheme_cons, Bool.and_eq_true, List.all_eq_true] at h
    rw [lowercaseBytes, List.map_cons, validScheme_cons, Bool.and_eq_true, List.all_eq_true]
    refine ⟨isAlpha_toLower a h.1, fun c hc => ?_⟩
    obtain ⟨d, hd, rfl⟩ := List.mem_map.1 hc
    exact schemeChar_toLower d (h.2 d hd)

theorem unescapeCheck_ok (zone : Bool) (s : Bytes) : unescapeCheck zone s = none → ∀ c ∈ s, okHostByte c = true := by
  fun_induction unescapeCheck zone s with
  | case1 => intro _ c hc; cases hc
  | case2 => intro h; cases h
  | case3 => intro h; cases h
  | case4 => intro h; cases h
  | case5 first hf c1 c2 rest' hhex _ _ _ _ ih =>
    intro h
    rw [Bool.or_eq_true, not_or, Bool.not_eq_true', Bool.not_eq_true', Bool.not_eq_false, Bool.not_eq_false] at hhex
    rw [List.forall_mem_cons, List.forall_mem_cons, List.forall_mem_cons, eq_of_beq hf]
    exact ⟨rfl, (okHostByte_facts c1).2 hhex.1, (okHostByte_facts c2).2 hhex.2, ih h⟩
  | case6 => intro h; cases h
  | case7 => intro h; cases h
  | case8 first rest hf hok ih =>
    intro h
    rw [List.forall_mem_cons]
    refine ⟨?_, ih h⟩
    cases hs : shouldEscapeHost first with
    | false => simp [okHostByte, hs]
    | true =>
      rw [hs, Bool.and_true, decide_eq_true_eq, UInt8.not_lt] at hok
      simp [okHostByte, hok]

/-- a successful step  `unescape s zone >>= f`,  spelt as in `parseHost`, has passed the check on every byte of `s` -/
theorem unescape_then_ok {zone : Bool} {s : Bytes} {f : Bytes → Except UErr Bytes} {r : Bytes}
    (h : (match unescape s zone with | .error e => Except.error e | .ok a => f a) = .ok r) :
    (∀ c ∈ s, okHostByte c = true) ∧ ∃ a, f a = .ok r := by
  unfold unescape at h
  cases hn : unescapeCheck zone s with
  | some e => rw [hn] at h; cases h
  | none => rw [hn] at h; exact ⟨unescapeCheck_ok zone s hn, _, h⟩

theorem splitAt3_eq (x y z : UInt8) (b l r : Bytes) (h : splitAt3 x y z b = some (l, r)) :
    b = l ++ x :: y :: z :: r := by
  fun_induction splitAt3 x y z b generalizing l with
  | case1 a b c rest hm =>
    rw [Bool.and_eq_true, Bool.and_eq_true, beq_iff_eq, beq_iff_eq, beq_iff_eq] at hm
    cases h
    rw [hm.1.1, hm.1.2, hm.2]; rfl
  | case2 a b c rest hm ih =>
    cases hs : splitAt3 x y z (b :: c :: rest) with
    | none => rw [hs] at h; cases h
    | some pr =>
      rw [hs] at h; cases h
      rw [ih _ hs]; rfl
  | case3 => cases h

theorem parseHost_bytes (host r : Bytes) (h : parseHost host = .ok r) : ∀ c ∈ host, okHostByte c = true := by
  unfold parseHost at h
  simp only at h
  split at h
  · rename_i tl
    split at h
    · cases h
    split at h
    · cases h
    split at h
    · cases h
    split at h
    · -- the zone form  pre "%25" zrest "]" after : each of the three pieces went through unescape
      rename_i pre zrest hsplit
      obtain ⟨h1, _, h⟩ := unescape_then_ok h
      obtain ⟨h2, _, h⟩ := unescape_then_ok h
      obtain ⟨h3, _, _⟩ := unescape_then_ok h
      intro c hc
      rw [← List.takeWhile_append_dropWhile (p := (· != 93)) (l := 91 :: tl), splitAt3_eq _ _ _ _ _ _ hsplit,
        List.mem_append, List.mem_append] at hc
      rcases hc with (hc | hc) | hc
      · exact h1 c hc
      · exact h2 c hc
      · refine h3 c ?_
        have := List.head?_dropWhile_not (· != 93) (91 :: tl)
        cases hd : List.dropWhile (· != 93) (91 :: tl) with
        | nil => rw [hd] at hc; cases hc
        | cons a X =>
          rw [hd] at hc this
          rwa [show a = 93 by simpa using this] at hc
    · exact (unescape_then_ok h).1
  · split at h
    · cases h
    split at h
    · split at h
      · cases h
      split at h
      · cases h
      exact (unescape_then_ok h).1
    · exact (unescape_then_ok h).1

theorem splitAt2_eq (x y : UInt8) (b l r : Bytes) (h : splitAt2 x y b = some (l, r)) : b = l ++ x :: y :: r := by
  fun_induction splitAt2 x y b generalizing l with
  | case1 => cases h
  | case2 => cases h
  | case3 a b rest hm =>
    rw [Bool.and_eq_true, beq_iff_eq, beq_iff_eq] at hm
    cases h
    rw [hm.1, hm.2]; rfl
  | case4 a b rest hm ih =>
    cases hs : splitAt2 x y (b :: rest) with
    | none => rw [hs] at h; cases h
    | some pr =>
      rw [hs] at h; cases h
      rw [ih _ hs]; rfl

theorem splitAt2_step (x y a b : UInt8) (rest : Bytes) (h : (a == x && b == y) = false) :
    splitAt2 x y (a :: b :: rest) = (splitAt2 x y (b :: rest)).map fun (l, r) => (a :: l, r) := by
  rw [splitAt2, h]; rfl

theorem splitAt2_prefix (S R : Bytes) (hS : (47 : UInt8) ∉ S) :
    splitAt2 47 47 (S ++ 58 :: 47 :: 47 :: R) = some (S ++ [58], R) := by
  induction S with
  | nil => rfl
  | cons c t ih =>
    rw [List.mem_cons, not_or] at hS
    have hc : ∀ b : UInt8, (c == 47 && b == 47) = false := fun b => by
      rw [(beq_eq_false_iff_ne).2 (Ne.symm hS.1)]; rfl
    cases t with
    | nil => rw [List.cons_append, List.nil_append, splitAt2_step 47 47 c 58 _ (hc 58), ← List.nil_append (58 :: _), ih hS.2]; rfl
    | cons d t' => rw [List.cons_append, List.cons_append, splitAt2_step 47 47 c d _ (hc d), ← List.cons_append, ih hS.2]; rfl

def isDelim (c : UInt8) : Bool := c == 47 || c == 63 || c == 35

theorem splitHostURI_full (S H X : Bytes) (hS : (47 : UInt8) ∉ S) (hH : ∀ c ∈ H, isDelim c = false) :
    splitHostURI [] (S ++ [58, 47, 47] ++ H ++ 47 :: X) = (S, H, 47 :: X) := by
  have e : S ++ [58, 47, 47] ++ H ++ 47 :: X = S ++ 58 :: 47 :: 47 :: (H ++ 47 :: X) := by simp
  have hc : (S ++ [58]).contains 47 = false := by simp [hS]
  obtain ⟨t1, t2⟩ := cut_first (fun c => !(c == 47 || c == 63 || c == 35)) H (47 :: X)
    (fun a ha => by rw [← isDelim, hH a ha]; rfl) (fun a ha => by cases ha; rfl)
  unfold splitHostURI
  rw [e, splitAt2_prefix S _ hS]
  simp only [hc, Bool.false_eq_true, if_false, List.getLast?_concat, beq_self_eq_true, if_true, List.dropLast_concat,
    t1, t2, List.isEmpty_cons]

/-- a request URI "/…" whose second byte is not '/' is never split into scheme and authority -/
theorem splitHostURI_path (host X : Bytes) (hX : X.head? ≠ some 47) :
    splitHostURI host (47 :: X) = (ofString "http", host, 47 :: X) := by
  unfold splitHostURI
  split
  · rfl
  · rename_i scheme rest hsp
    have := splitAt2_eq _ _ _ _ _ hsp
    cases scheme with
    | nil =>
      rw [List.nil_append, List.cons.injEq] at this
      rw [this.2] at hX
      exact absurd rfl hX
    | cons a l =>
      rw [List.cons_append, List.cons.injEq] at this
      rw [← this.1]
      rfl

theorem mem_splitHostURI (host uri s h u1 : Bytes) (hs : splitHostURI host uri = (s, h, u1)) :
    ∀ c ∈ u1, c ∈ uri ∨ c = 47 := by
  unfold splitHostURI at hs
  split at hs
  · cases hs; exact fun c hc => Or.inl hc
  · rename_i scheme rest hsp
    split at hs
    · cases hs; exact fun c hc => Or.inl hc
    · simp only at hs
      split at hs
      · cases hs; exact fun c hc => Or.inr (List.mem_singleton.1 hc)
      · cases hs
        intro c hc
        rw [splitAt2_eq _ _ _ _ _ hsp]
        exact Or.inl (List.mem_append_right _ (List.mem_cons_of_mem _ (List.mem_cons_of_mem _
          ((List.dropWhile_sublist _).subset hc))))

theorem splitLast_none (c : UInt8) (b : Bytes) (h : c ∉ b) : splitLast c b = none := by
  have : lastIndexOf c b = none := by
    induction b with
    | nil => rfl
    | cons a t ih =>
      rw [List.mem_cons, not_or] at h
      rw [lastIndexOf, ih h.2, (beq_eq_false_iff_ne).2 (Ne.symm h.1)]
      rfl
  rw [splitLast, this]

/-- URI.parse on an authority without userinfo, in terms of the (scheme, authority, rest) split -/
theorem parseURI_of (host uri scheme host1 uri1 h : Bytes) (hctl : ∀ c ∈ uri, isCTL c = false)
    (hsplit : (if host.isEmpty || containsSub3 58 47 47 uri then splitHostURI host uri else ([], host, uri)) =
      (scheme, host1, uri1))
    (hsch : scheme = [] ∨ isValidScheme scheme = true) (hat : (64 : UInt8) ∉ host1) (hh : parseHost host1 = .ok h) :
    parseURI host uri = .ok ⟨lowercaseBytes scheme, lowercaseBytes h, [], [], (splitPQF uri1).1,
      normalizePath (splitPQF uri1).1, (splitPQF uri1).2.1, (splitPQF uri1).2.2⟩ := by
  have hc : uri.any isCTL = false := by simpa using hctl
  have hs : (!scheme.isEmpty && !isValidScheme scheme) = false := by
    rcases hsch with rfl | h
    · rfl
    · rw [h]; simp
  unfold parseURI
  simp only [hc, hsplit, Bool.and_assoc, hs, Bool.and_false, splitLast_none 64 host1 hat, hh, Bool.false_eq_true,
    if_false, Option.map_none, Option.isSome_none, Bool.false_and, Option.getD_none, List.takeWhile_nil,
    List.dropWhile_nil, List.drop_nil]

theorem http_valid : isValidScheme (ofString "http") = true ∧ lowercaseBytes (ofString "http") = ofString "http" := by
  decide +kernel

theorem path_facts (u : URI) (po : Bytes) (h : u.path = normalizePath po) :
    ∃ X, quotePath u.getPath = 47 :: X ∧ X.head? ≠ some 47 ∧ normalizePath (47 :: X) = u.getPath := by
  obtain ⟨rest, hrest⟩ := C26.starts_with_slash po
  have hpath : u.getPath = 47 :: rest := by rw [URI.getPath, h, hrest]; rfl
  rw [hpath, quotePath_slash]
  refine ⟨_, rfl, quoted_head rest (normalizePath_no_slash_slash _ rest hrest), ?_⟩
  rw [← quotePath_slash, ← hrest]
  exact normalize_quote_fixed po

/-- what a successful Parse(nil, uri) guarantees about the parts that FullURI() and RequestURI() write out -/
theorem parse_facts (uri : Bytes) (u : URI) (h : parseURI [] uri = .ok u) :
    (isValidScheme u.getScheme = true ∧ lowercaseBytes u.getScheme = u.getScheme) ∧
    lowercaseBytes u.host = u.host ∧
    (∃ X, quotePath u.getPath = 47 :: X ∧ X.head? ≠ some 47 ∧ normalizePath (47 :: X) = u.getPath) ∧
    (35 : UInt8) ∉ u.queryString ∧ (∀ c ∈ u.queryString, isCTL c = false) ∧ (∀ c ∈ u.hash, isCTL c = false) := by
  unfold parseURI at h
  by_cases hctl : uri.any isCTL = true
  · rw [if_pos hctl] at h; cases h
  rw [if_neg hctl] at h
  rcases hs : splitHostURI [] uri with ⟨scheme, host1, uri1⟩
  simp only [List.isEmpty_nil, Bool.true_or, if_true, hs, Bool.true_and] at h
  split at h
  · cases h
  · rename_i hsch
    split at h
    · cases h
    · split at h
      · cases h
      · cases h
        -- bytes of the rest come from the input, which has no control byte
        have hu1 : ∀ c ∈ uri1, isCTL c = false := fun c hc => by
          rcases mem_splitHostURI [] uri scheme host1 uri1 hs c hc with h | rfl
          · exact Bool.eq_false_iff.2 (List.any_eq_false.1 (Bool.eq_false_iff.2 hctl) c h)
          · rfl
        obtain ⟨m1, m2⟩ := mem_splitPQF uri1
        refine ⟨?_, C32.lowercase_idem _, path_facts _ _ rfl, fun hm => (m1 35 hm).2 rfl,
          fun c hc => hu1 c (m1 c hc).1, fun c hc => hu1 c (m2 c hc)⟩
        unfold URI.getScheme
        cases hsc : scheme with
        | nil => exact http_valid
        | cons a t =>
          have hv : isValidScheme (a :: t) = true := by simpa [hsc] using hsch
          exact ⟨validScheme_lower _ hv, C32.lowercase_idem _⟩

/-- parsing a string whose (scheme, authority, rest) split has a fixed point of parseHost as authority and a
    serialised  P ["?" q] ["#" f]  as rest: the common part of the two re-parse theorems -/
theorem parse_tail (host uri sch H P q f : Bytes) (hctl : ∀ c ∈ uri, isCTL c = false)
    (hsplit : (if host.isEmpty || containsSub3 58 47 47 uri then splitHostURI host uri else ([], host, uri)) =
      (sch, H, P ++ (if q.isEmpty then [] else 63 :: q) ++ (if f.isEmpty then [] else 35 :: f)))
    (hsch : sch = [] ∨ isValidScheme sch = true) (hH : parseHost H = .ok H) (hHl : lowercaseBytes H = H)
    (hP : ∀ x ∈ P, x ≠ 63 ∧ x ≠ 35 ∧ isCTL x = false) (hq : (35 : UInt8) ∉ q) :
    parseURI host uri = .ok ⟨lowercaseBytes sch, H, [], [], P, normalizePath P, q, f⟩ := by
  have hat : (64 : UInt8) ∉ H := fun hm => ((okHostByte_facts 64).1 (parseHost_bytes H H hH 64 hm)).2.2.2.1 rfl
  rw [parseURI_of host uri sch H _ H hctl hsplit hsch hat hH,
    splitPQF_tail P q f (fun hm => (hP 63 hm).1 rfl) (fun hm => (hP 35 hm).2.1 rfl) hq, hHl]

theorem requestURI_none (u : URI) :
    u.requestURI none = quotePath u.getPath ++ (if u.queryString.isEmpty then [] else 63 :: u.queryString) := by
  unfold URI.requestURI
  cases u.queryString.isEmpty
  · rfl
  · exact (List.append_nil _).symm

theorem forall_opt {P : UInt8 → Prop} {c : UInt8} {y : Bytes} (hc : P c) (hy : ∀ a ∈ y, P a) :
    ∀ a ∈ (if y.isEmpty then [] else c :: y), P a := by
  split
  · exact fun _ h => absurd h List.not_mem_nil
  · exact List.forall_mem_cons.2 ⟨hc, hy⟩

theorem tail_noCTL (P q f : Bytes) (hP : ∀ x ∈ P, x ≠ 63 ∧ x ≠ 35 ∧ isCTL x = false) (hq : ∀ c ∈ q, isCTL c = false)
    (hf : ∀ c ∈ f, isCTL c = false) :
    ∀ c ∈ P ++ (if q.isEmpty then [] else 63 :: q) ++ (if f.isEmpty then [] else 35 :: f), isCTL c = false :=
  List.forall_mem_append.2 ⟨List.forall_mem_append.2 ⟨fun c hc => (hP c hc).2.2, forall_opt rfl hq⟩, forall_opt rfl hf⟩

/-- C27 core: a URI parsed from an absolute string, whose host is a fixed point of parseHost, serialises to a
    string that parses to the same scheme, host, path, query string and fragment. -/
theorem fulluri_reparse (uri : Bytes) (u : URI) (hp : parseURI [] uri = .ok u)
    (hfix : parseHost u.host = .ok u.host) :
    parseURI [] (u.fullURI none) =
      .ok ⟨u.getScheme, u.host, [], [], quotePath u.getPath, u.getPath, u.queryString, u.hash⟩ := by
  obtain ⟨⟨hS, hSl⟩, hHl, ⟨X, hq, _, hn⟩, hq35, hqs, hf⟩ := parse_facts uri u hp
  have hP := quotePath_clean u.getPath
  have hSc := fun c hc => schemeChar_plain c (validScheme_chars _ hS c hc)
  have hHb := fun c hc => (okHostByte_facts c).1 (parseHost_bytes _ _ hfix c hc)
  have hfull : u.fullURI none = u.getScheme ++ [58, 47, 47] ++ u.host ++ (quotePath u.getPath ++
      (if u.queryString.isEmpty then [] else 63 :: u.queryString) ++ (if u.hash.isEmpty then [] else 35 :: u.hash)) := by
    rw [URI.fullURI, requestURI_none, List.append_assoc]
  have hctl : ∀ c ∈ u.fullURI none, isCTL c = false := by
    rw [hfull]
    exact List.forall_mem_append.2 ⟨List.forall_mem_append.2 ⟨List.forall_mem_append.2
      ⟨fun c hc => (hSc c hc).2, by decide⟩, fun c hc => (hHb c hc).2.2.2.2⟩, tail_noCTL _ _ _ hP hqs hf⟩
  refine (parse_tail [] _ u.getScheme u.host _ u.queryString u.hash hctl ?_ (Or.inr hS) hfix hHl hP hq35).trans ?_
  · rw [hfull, hq]
    refine splitHostURI_full _ _ _ (fun hm => (hSc 47 hm).1 rfl) fun c hc => ?_
    obtain ⟨a1, a2, a3, _⟩ := hHb c hc
    rw [isDelim, beq_false_of_ne a1, beq_false_of_ne a2, beq_false_of_ne a3]; rfl
  · rw [hSl, hq, hn]

/-- C27 core, RequestURI(): parsing it against the same host gives the same path and query string -/
theorem requesturi_reparse (uri : Bytes) (u : URI) (hp : parseURI [] uri = .ok u)
    (hfix : parseHost u.host = .ok u.host) :
    ∃ sch, parseURI u.host (u.requestURI none) =
      .ok ⟨sch, u.host, [], [], quotePath u.getPath, u.getPath, u.queryString, []⟩ := by
  obtain ⟨_, hHl, ⟨X, hq, hX, hn⟩, hq35, hqs, _⟩ := parse_facts uri u hp
  have hP := quotePath_clean u.getPath
  have hreq : u.requestURI none = quotePath u.getPath ++ (if u.queryString.isEmpty then [] else 63 :: u.queryString) ++
      (if ([] : Bytes).isEmpty then [] else 35 :: []) := by
    rw [requestURI_none]; exact (List.append_nil _).symm
  have hctl : ∀ c ∈ u.requestURI none, isCTL c = false := by
    rw [hreq]
    exact tail_noCTL _ _ _ hP hqs fun _ hc => absurd hc List.not_mem_nil
  -- whether or not URI.parse looks for an authority, the host stays and the whole string is the rest
  obtain ⟨sch, hsch, hsplit⟩ : ∃ sch, (sch = [] ∨ isValidScheme sch = true) ∧
      (if u.host.isEmpty || containsSub3 58 47 47 (u.requestURI none) then splitHostURI u.host (u.requestURI none)
        else ([], u.host, u.requestURI none)) = (sch, u.host, u.requestURI none) := by
    split
    · refine ⟨ofString "http", Or.inr http_valid.1, ?_⟩
      rw [requestURI_none, hq]
      refine splitHostURI_path u.host _ ?_
      cases X with
      | nil => split <;> simp
      | cons b t => exact hX
    · exact ⟨[], Or.inl rfl, rfl⟩
  refine ⟨lowercaseBytes sch, ?_⟩
  rw [parse_tail u.host _ sch u.host _ u.queryString [] hctl (hsplit.trans (congrArg (fun t => (sch, u.host, t)) hreq))
    hsch hfix hHl hP hq35, hq, hn]

theorem getScheme_idem (u : URI) (v : URI) (h : v.scheme = u.getScheme) : v.getScheme = u.getScheme := by
  have hh : (ofString "http").isEmpty = false := by decide +kernel
  unfold URI.getScheme at h ⊢
  rw [h]
  cases he : u.scheme.isEmpty <;> simp [he, hh]

theorem getPath_idem (u : URI) (v : URI) (h : v.path = u.getPath) : v.getPath = u.getPath := by
  unfold URI.getPath at h ⊢
  rw [h]
  cases he : u.path.isEmpty <;> simp [he]

end Fh.Proofs.URI
