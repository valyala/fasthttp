/-
Helper lemmas for C36: the simulation between the adaptor's writer and the ResponseWriter reference, and the
per-name header lemmas for ConvertRequest.
-/
import FhVerif.Model.Adaptor

namespace Fh.Proofs.Adaptor
open Fh Fh.Spec.NH Fh.Model.Adaptor

/-- operations inside the compared space: valid status codes; Content-Length is a framing field the servers own -/
def opOK : HOp → Bool
  | .writeHeader c => validCode c
  | .add k _ => k != sContentLength
  | .set k _ => k != sContentLength
  | _ => true

def wellFormed (p : List HOp) : Prop := ∀ o ∈ p, opOK o = true

instance (p : List HOp) : Decidable (wellFormed p) := by unfold wellFormed; infer_instance

def noCL (h : Hdr) : Prop := ∀ e ∈ h, e.1 ≠ sContentLength

theorem del_noCL_id {h : Hdr} (hn : noCL h) : Hdr.del h sContentLength = h :=
  List.filter_eq_self.mpr fun e he => decide_eq_true (hn e he)

theorem noCL_add {h : Hdr} {k : Bytes} (v : Bytes) (hn : noCL h) (hk : k ≠ sContentLength) : noCL (Hdr.add h k v) :=
  fun e he => (List.mem_append.mp he).elim (hn e) fun h1 => List.mem_singleton.mp h1 ▸ hk

theorem noCL_del {h : Hdr} (k : Bytes) (hn : noCL h) : noCL (Hdr.del h k) :=
  fun e he => hn e (List.mem_filter.mp he).1

theorem noCL_set {h : Hdr} {k : Bytes} (v : Bytes) (hn : noCL h) (hk : k ≠ sContentLength) : noCL (Hdr.set h k v) :=
  noCL_add v (noCL_del k hn) hk

/-- The reference state and the writer, by phase.  `free`: no final WriteHeader, Write or Flush yet.  `fixed`: both
    have snapshotted the header map as `h0`; the writer's status word `sc` (a final code, or -1 = statusImplicit) reads
    back as the reference's code `c`; `b` was written before the first Flush, `t` after it. -/
inductive Sim : St → W → Prop
  | free {h : Hdr} {im} : noCL h → Sim { hdr := h, interim := im } { h := h }
  | fixed {h h0 : Hdr} {im} {c : Nat} {sc : Int} {b t sb : Bytes} {fl} : noCL h → noCL h0 → sc ≠ 0 →
      (if sc ≤ 0 then 200 else sc.toNat) = c → (fl = none ∧ t = [] ∨ fl = some (c, h0)) →
      sb = (if bodyAllowed c then b ++ t else []) →
      Sim ⟨h, some (c, h0), im, sb, false⟩ ⟨h, some h0, sc, b, fl, t, false⟩

/-- the reference keeps written bytes exactly when the status allows a body, which is when `W.final` keeps them -/
theorem step_write_fixed (h h0 : Hdr) (im) (c : Nat) (a x : Bytes) :
    Spec.NH.step ⟨h, some (c, h0), im, if bodyAllowed c then a else [], false⟩ (.write x) =
      ⟨h, some (c, h0), im, if bodyAllowed c then a ++ x else [], false⟩ := by
  show (if bodyAllowed c = true then _ else _) = _
  cases bodyAllowed c <;> rfl

/-- on the shapes `Sim` lists both `step`s compute; what is left is the next shape's side conditions -/
theorem sim_step {s : St} {w : W} (o : HOp) (hi : Sim s w) (ho : opOK o = true) :
    Sim (Spec.NH.step s o) (Model.Adaptor.step w o) := by
  cases hi with
  | free hn =>
    cases o with
    | add k v => exact .free (noCL_add v hn (bne_iff_ne.mp ho))
    | set k v => exact .free (noCL_set v hn (bne_iff_ne.mp ho))
    | del k => exact .free (noCL_del k hn)
    | write b => exact .fixed (sc := -1) hn hn (by decide) rfl (.inl ⟨rfl, rfl⟩) (List.append_nil _).symm
    | flush =>
      -- the snapshot handed over carries no Content-Length to delete
      exact .fixed (sc := -1) hn hn (by decide) rfl (.inr (congrArg (fun x => some (200, x)) (del_noCL_id hn))) rfl
    | writeHeader c =>
      have hv : validCode c = true := ho
      have h100 : 100 ≤ c := of_decide_eq_true (Bool.and_eq_true _ _ ▸ hv).1
      simp only [Spec.NH.step, Model.Adaptor.step, hv]
      -- an informational code is dropped by the writer and only recorded by the reference
      cases informational c with
      | true => exact .free hn
      | false =>
        exact .fixed (sc := Int.ofNat c) hn hn (by show (c : Int) ≠ 0; omega) (if_neg (by show ¬ (c : Int) ≤ 0; omega))
          (.inl ⟨rfl, rfl⟩) (ite_self _).symm
  | fixed hn hn0 hsc hst hfl hb =>
    cases o with
    | add k v => exact .fixed (noCL_add v hn (bne_iff_ne.mp ho)) hn0 hsc hst hfl hb
    | set k v => exact .fixed (noCL_set v hn (bne_iff_ne.mp ho)) hn0 hsc hst hfl hb
    | del k => exact .fixed (noCL_del k hn) hn0 hsc hst hfl hb
    | writeHeader c =>
      -- superfluous on both sides
      have hv : validCode c = true := ho
      simp only [Model.Adaptor.step, W.fixHeader, hv, if_neg hsc, ite_self]
      exact .fixed hn hn0 hsc hst hfl hb
    | write x =>
      subst hb
      rw [step_write_fixed]
      -- the status word is set, so `fixHeader` does nothing
      simp only [Model.Adaptor.step, W.fixHeader, if_neg hsc]
      rcases hfl with ⟨rfl, rfl⟩ | rfl
      · exact .fixed hn hn0 hsc hst (.inl ⟨rfl, rfl⟩) (by rw [List.append_nil, List.append_nil])
      · exact .fixed hn hn0 hsc hst (.inr rfl) (by rw [List.append_assoc])
    | flush =>
      simp only [Model.Adaptor.step, W.fixHeader, if_neg hsc]
      rcases hfl with ⟨rfl, rfl⟩ | rfl
      · subst hst
        exact .fixed hn hn0 hsc rfl (.inr (congrArg (fun x => some (_, x)) (del_noCL_id hn0))) hb
      · exact .fixed hn hn0 hsc hst (.inr rfl) hb

theorem sim_run (p : List HOp) (hp : wellFormed p) : Sim (Spec.NH.run p) (Model.Adaptor.run p) :=
  List.foldl_rel (.free fun _ he => nomatch he) fun o ho _ _ hi => sim_step o hi (hp o ho)

theorem Sim.final {s : St} {w : W} (hi : Sim s w) : s.panicked = false ∧ w.panicked = false ∧ w.final = s.final := by
  cases hi with
  | free => exact ⟨rfl, rfl, rfl⟩
  | fixed _ _ _ hst hfl hb =>
    subst hst hb
    refine ⟨rfl, rfl, ?_⟩
    rcases hfl with ⟨rfl, rfl⟩ | rfl
    · rw [List.append_nil]
      rfl
    · rfl

theorem values_append (a b : Hdr) (k : Bytes) : Hdr.values (a ++ b) k = Hdr.values a k ++ Hdr.values b k := by
  unfold Hdr.values
  rw [List.filter_append, List.map_append]

theorem values_nil (k : Bytes) : Hdr.values [] k = [] := rfl

theorem values_of_name (seg : Hdr) (n k : Bytes) (h : ∀ e ∈ seg, e.1 = n) :
    Hdr.values seg k = if n = k then seg.map (·.2) else [] := by
  unfold Hdr.values
  by_cases hk : n = k
  · rw [if_pos hk, List.filter_eq_self.mpr fun e he => decide_eq_true ((h e he).trans hk)]
  · rw [if_neg hk, List.filter_eq_nil_iff.mpr fun e he hd => hk ((h e he).symm.trans (of_decide_eq_true hd))]; rfl

theorem values_single (a v k : Bytes) : Hdr.values [(a, v)] k = if a = k then [v] else [] :=
  values_of_name [(a, v)] a k fun _ he => List.mem_singleton.mp he ▸ rfl

theorem values_filter (f : Hdr) (P : Bytes → Bool) (k : Bytes) :
    Hdr.values (f.filter (fun e => P e.1)) k = if P k = true then Hdr.values f k else [] := by
  unfold Hdr.values
  -- on the fields named `k` the test `P e.1` is `P k`
  rw [List.filter_filter, List.filter_congr (q := fun e => decide (e.1 = k) && P k) fun e _ => by
    by_cases he : e.1 = k <;> simp [he]]
  cases P k <;> simp

theorem values_filter_name (f : Hdr) (n k : Bytes) :
    Hdr.values (f.filter (fun e => e.1 = n)) k = if k = n then Hdr.values f k else [] :=
  (values_filter f (· = n) k).trans (by simp only [decide_eq_true_eq])

/-- r.Header on both sides: every field but Host and Transfer-Encoding -/
theorem values_kept (f : Hdr) (k : Bytes) :
    Hdr.values (f.filter (fun e => e.1 ≠ sHost && e.1 ≠ sTransferEncoding)) k =
      if k ≠ sHost ∧ k ≠ sTransferEncoding then Hdr.values f k else [] :=
  (values_filter f (fun n => n ≠ sHost && n ≠ sTransferEncoding) k).trans
    (by simp only [Bool.and_eq_true, decide_eq_true_eq])

theorem map_values (f : Hdr) (n : Bytes) : (Hdr.values f n).map (fun v => (n, v)) = f.filter (fun e => e.1 = n) := by
  unfold Hdr.values
  rw [List.map_map]
  exact (List.map_congr_left fun e he => by rw [← of_decide_eq_true (List.mem_filter.mp he).2]; rfl).trans (List.map_id _)

theorem values_optField (n k : Bytes) (v : Option Bytes) :
    Hdr.values (optField n v) k = if n = k then v.toList.filter (fun v => !v.isEmpty) else [] := by
  match v with
  | none => exact (ite_self _).symm
  | some [] => exact (ite_self _).symm
  | some (a :: l) => exact values_single n (a :: l) k

theorem getLast_toList_of_le_one (l : List Bytes) (h : l.length ≤ 1) : l.getLast?.toList = l := by
  match l, h with
  | [], _ => rfl
  | [x], _ => rfl

/-- a non-empty field that occurs at most once: what `All()` yields for its last value, and equally the cookie line
    (nothing to join), is the request's own field -/
theorem single_forms (f : Hdr) (n : Bytes) (h1 : (Hdr.values f n).length ≤ 1) (hne : ∀ e ∈ f, e.1 = n → e.2 ≠ []) :
    optField n (lastValue f n) = f.filter (fun e => e.1 = n) ∧
    (if ((Hdr.values f n).filter (fun v => !v.isEmpty)).isEmpty then []
      else [(n, joinWith sSemiSp ((Hdr.values f n).filter (fun v => !v.isEmpty)))]) = f.filter (fun e => e.1 = n) := by
  have hv : ∀ v ∈ Hdr.values f n, v ≠ [] := fun v hv => by
    obtain ⟨e, he, rfl⟩ := List.mem_map.mp hv
    obtain ⟨he, hk⟩ := List.mem_filter.mp he
    exact hne e he (of_decide_eq_true hk)
  rw [← map_values, lastValue]
  match Hdr.values f n, h1, hv with
  | [], _, _ => exact ⟨rfl, rfl⟩
  | [[]], _, hv => exact absurd rfl (hv [] (List.mem_singleton.mpr rfl))
  | [_ :: _], _, _ => exact ⟨rfl, rfl⟩

theorem lower_idem (c : UInt8) : lower (lower c) = lower c := by
  unfold lower
  by_cases h : (decide (65 ≤ c) && decide (c ≤ 90)) = true
  · -- 'A'..'Z' land in 'a'..'z'
    rw [if_pos h, if_neg]
    simp only [Bool.and_eq_true, decide_eq_true_eq, UInt8.le_iff_toNat_le, UInt8.toNat_add, UInt8.reduceToNat] at h ⊢
    omega
  · rw [if_neg h, if_neg h]

theorem lowerB_idem (b : Bytes) : lowerB (lowerB b) = lowerB b := by
  unfold lowerB
  rw [List.map_map]
  exact List.map_congr_left fun c _ => lower_idem c

theorem parse_http2 : parseHTTPVersion sHTTP2 = none := by decide +kernel

theorem convert_header (q : TokReq) :
    (convert q).header = (fhAll q).filter (fun e => e.1 ≠ sHost && e.1 ≠ sTransferEncoding) := by
  rw [convert]

theorem referenceParse_header (q : TokReq) :
    (referenceParse q).header = pragmaFix (q.fields.filter (fun e => e.1 ≠ sHost && e.1 ≠ sTransferEncoding)) := by
  rw [referenceParse]

end Fh.Proofs.Adaptor
