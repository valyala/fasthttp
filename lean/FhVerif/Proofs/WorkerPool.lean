/-
The worker-pool transition system: its invariants (`InvA`: who refers to a worker, `InvB`: where a connection is) and
their preservation by every event, the drain (every autonomous event decreases `work`), and the binary search of `clean`.
-/
import FhVerif.Model.WorkerPool
import FhVerif.Base.Run
import FhVerif.Base.ListSum

namespace Fh.Proofs.WorkerPool
open Fh.Model.WP Fh.Wsum

local notation "Wid" => Nat
local notation "Cid" => Nat
local notation "Time" => Nat

theorem sumTo_eq_wsum (n : Nat) (f : Nat → Nat) : sumTo n f = wsum f (List.range n) := by
  induction n with
  | zero => rfl
  | succ n ih => rw [sumTo, ih, List.range_succ, wsum_snoc]

theorem sumTo_congr {n : Nat} {f g : Nat → Nat} (h : ∀ x, x < n → f x = g x) : sumTo n f = sumTo n g := by
  simp only [sumTo_eq_wsum]
  exact wsum_congr _ _ _ fun x hx => h x (List.mem_range.mp hx)

theorem sumTo_le {n : Nat} {f g : Nat → Nat} (h : ∀ x, f x ≤ g x) : sumTo n f ≤ sumTo n g := by
  simp only [sumTo_eq_wsum]
  exact wsum_le _ _ _ fun x _ => h x

theorem sumTo_ge {n : Nat} {f : Nat → Nat} {w : Nat} (hw : w < n) : f w ≤ sumTo n f :=
  sumTo_eq_wsum n f ▸ wsum_pos_of_mem f _ w (List.mem_range.mpr hw)

theorem sumTo_eq_zero_iff {n : Nat} {f : Nat → Nat} : sumTo n f = 0 ↔ ∀ x, x < n → f x = 0 :=
  ⟨fun h _ hx => Nat.le_zero.mp (h ▸ sumTo_ge hx),
   fun h => sumTo_eq_wsum n f ▸ wsum_eq_zero f _ fun x hx => h x (List.mem_range.mp hx)⟩

theorem sumTo_update {n : Nat} {f g : Nat → Nat} {w : Nat} (hw : w < n) (h : ∀ x, x ≠ w → f x = g x) :
    sumTo n g + f w = sumTo n f + g w := by
  simp only [sumTo_eq_wsum]
  exact wsum_update (List.mem_range.mpr hw) List.nodup_range fun x _ => h x

/-! ### `step` as a relation -/

/-- One constructor per branch of `step` that returns a state, its guards as hypotheses. -/
inductive Step (s : State) : Event → State → Prop
  | pop {w t} (h : s.ready.getLast? = some (w, t)) :
      Step s .getCh { s with ready := s.ready.dropLast,
                             workers := upd s.workers w { s.workers w with reserved := some s.nconns },
                             nconns := s.nconns + 1, loc := upd s.loc s.nconns (.at w) }
  | create (h : s.ready.getLast? = none) (hlt : s.workersCount < s.maxWorkers) :
      Step s .getCh { s with workersCount := s.workersCount + 1, nextWid := s.nextWid + 1,
                             workers := upd s.workers s.nextWid ⟨.waiting, [], some s.nconns⟩,
                             nconns := s.nconns + 1, loc := upd s.loc s.nconns (.at s.nextWid) }
  | reject (h : s.ready.getLast? = none) (hge : ¬ s.workersCount < s.maxWorkers) :
      Step s .getCh { s with nconns := s.nconns + 1, loc := upd s.loc s.nconns .rejected }
  | send {w c} (hres : (s.workers w).reserved = some c) (hch : (s.workers w).chan = []) :
      Step s (.send w) { s with workers := upd s.workers w { s.workers w with reserved := none, chan := [some c] } }
  | recvConn {w c rest} (hph : (s.workers w).phase = .waiting) (hch : (s.workers w).chan = some c :: rest) :
      Step s (.recv w) { s with workers := upd s.workers w { s.workers w with phase := .serving c, chan := rest },
                                recvBy := upd s.recvBy c (s.recvBy c ++ [w]) }
  | recvNil {w rest} (hph : (s.workers w).phase = .waiting) (hch : (s.workers w).chan = none :: rest) :
      Step s (.recv w) { s with workers := upd s.workers w { s.workers w with phase := .exiting, chan := rest } }
  | finish {w c b} (hph : (s.workers w).phase = .serving c) :
      Step s (.finish w b) { s with workers := upd s.workers w { s.workers w with phase := .releasing },
                                    outcomes := upd s.outcomes c (s.outcomes c ++ [b]), loc := upd s.loc c (.done w) }
  | releaseStopped {w t} (hph : (s.workers w).phase = .releasing) (hm : s.mustStop = true) :
      Step s (.release w t) { s with workers := upd s.workers w { s.workers w with phase := .exiting } }
  | release {w t} (hph : (s.workers w).phase = .releasing) (hm : ¬ s.mustStop = true) :
      Step s (.release w t) { s with workers := upd s.workers w { s.workers w with phase := .waiting },
                                     ready := s.ready ++ [(w, t)] }
  | exit {w} (hph : (s.workers w).phase = .exiting) :
      Step s (.exit w) { s with workers := upd s.workers w { s.workers w with phase := .exited },
                                workersCount := s.workersCount - 1 }
  | clean {crit} :
      Step s (.clean crit) { s with ready := s.ready.drop (cleanCount s.ready crit),
                                    pending := s.pending ++ (s.ready.take (cleanCount s.ready crit)).map (·.1) }
  | notify {w} (h : w ∈ s.pending ∧ (s.workers w).chan = []) :
      Step s (.notify w) { s with pending := s.pending.erase w,
                                  workers := upd s.workers w { s.workers w with chan := [none] } }
  | stopAgain (hm : s.mustStop = true) : Step s .stop s
  | stop (hm : ¬ s.mustStop = true) (hall : s.ready.all (fun e => (s.workers e.1).chan.isEmpty) = true) :
      Step s .stop { s with workers := fun w => { s.workers w with
                                                  chan := (s.workers w).chan ++ List.replicate (cntR s w) none },
                            ready := [], mustStop := true }

theorem step_sound {s s' : State} {e : Event} (hs : step s e = some s') : Step s e s' := by
  cases e <;> simp only [step] at hs <;> (repeat' split at hs) <;> cases hs <;> constructor <;> assumption

/-! ### `InvA`: who refers to a worker -/

/-- in how many places worker `w` is referenced as idle or about to be told something -/
def occ (s : State) (w : Wid) : Nat :=
  cntR s w + s.pending.count w + (if (s.workers w).reserved.isSome then 1 else 0) + (s.workers w).chan.length

structure InvA (s : State) : Prop where
  hW : ∀ w, occ s w = if (s.workers w).phase = .waiting then 1 else 0
  hDef : ∀ w, s.nextWid ≤ w → (s.workers w).phase = .exited
  hCount : s.workersCount = sumTo s.nextWid (live s)
  hMax : s.workersCount ≤ s.maxWorkers
  hStop : s.mustStop = true → s.ready = []

theorem invA_init (m : Nat) : InvA (init m) :=
  ⟨fun w => by simp [occ, cntR, init, Worker.absent], fun _ _ => rfl, rfl, Nat.zero_le _, fun _ => rfl⟩

theorem lt_nextWid {s : State} (h : InvA s) {w : Wid} (hp : (s.workers w).phase ≠ .exited) : w < s.nextWid :=
  Nat.lt_of_not_ge fun hge => hp (h.hDef w hge)

theorem occ_rest {s : State} {w : Wid} (h : occ s w ≤ cntR s w) :
    s.pending.count w = 0 ∧ (s.workers w).reserved = none ∧ (s.workers w).chan = [] := by
  simp only [occ] at h
  refine ⟨by omega, ?_, List.eq_nil_of_length_eq_zero (by omega)⟩
  cases hres : (s.workers w).reserved with
  | none => rfl
  | some c => simp [hres] at h; omega

theorem InvA.quiet {s : State} (h : InvA s) {w : Wid} (hp : (s.workers w).phase ≠ .waiting) :
    cntR s w = 0 ∧ s.pending.count w = 0 ∧ (s.workers w).reserved = none ∧ (s.workers w).chan = [] := by
  have h0 := h.hW w
  rw [if_neg hp] at h0
  exact ⟨by simp only [occ] at h0; omega, occ_rest (by omega)⟩

/-- a worker referred to from outside its channel waits with an empty channel -/
theorem InvA.idle {s : State} (h : InvA s) {w : Wid} (hp : (s.workers w).chan.length < occ s w) :
    (s.workers w).phase = .waiting ∧ (s.workers w).chan = [] ∧ occ s w = 1 := by
  have := h.hW w
  split at this
  · exact ⟨‹_›, List.eq_nil_of_length_eq_zero (by omega), this⟩
  · omega

theorem cntR_pos {s : State} {w : Wid} {t : Time} (h : s.ready.getLast? = some (w, t)) : 0 < cntR s w :=
  List.countP_pos_iff.mpr ⟨_, List.mem_of_getLast? h, by simp⟩

theorem ready_idle {s : State} (h : InvA s) {w : Wid} (hr : 0 < cntR s w) :
    (s.workers w).phase = .waiting ∧ (s.workers w).reserved = none ∧ (s.workers w).chan = [] ∧
    s.pending.count w = 0 ∧ cntR s w = 1 := by
  obtain ⟨hp, hc, h1⟩ := h.idle (w := w) (by simp only [occ]; omega)
  obtain ⟨z1, z2, _⟩ := occ_rest (s := s) (w := w) (by omega)
  exact ⟨hp, z2, hc, z1, by simp only [occ] at h1; omega⟩

/-- the worker a `Serve` call holds waits with an empty channel: the send will not block -/
theorem InvA.reserved {s : State} (h : InvA s) {w : Wid} {c : Cid} (hres : (s.workers w).reserved = some c) :
    (s.workers w).phase = .waiting ∧ (s.workers w).chan = [] :=
  have ⟨hp, hc, _⟩ := h.idle (w := w) (by simp [occ, hres])
  ⟨hp, hc⟩

/-- so does a worker `clean` has retired and not yet notified -/
theorem InvA.pending {s : State} (h : InvA s) {w : Wid} (hmem : w ∈ s.pending) :
    (s.workers w).phase = .waiting ∧ (s.workers w).chan = [] :=
  have ⟨hp, hc, _⟩ := h.idle (w := w) (by have := List.count_pos_iff.mpr hmem; simp only [occ]; omega)
  ⟨hp, hc⟩

/-- no channel send blocks: not `Serve`'s, not the cleaner's, not the nils `Stop` sends under the lock -/
theorem sends_enabled {s : State} (h : InvA s) :
    (∀ w c, (s.workers w).reserved = some c → (s.workers w).chan = []) ∧
    (∀ w, w ∈ s.pending → (s.workers w).chan = []) ∧
    (step s .stop).isSome = true := by
  refine ⟨fun w c hres => (h.reserved hres).2, fun w hmem => (h.pending hmem).2, ?_⟩
  · have hall : (s.ready.all fun e => (s.workers e.1).chan.isEmpty) = true :=
      List.all_eq_true.mpr fun e he => by
        simp [(ready_idle h (w := e.1) (List.countP_pos_iff.mpr ⟨e, he, by simp⟩)).2.2.1]
    simp only [step, hall, if_true]
    split <;> rfl

theorem cntR_concat (l : List (Wid × Time)) (w v : Wid) (t : Time) :
    (l ++ [(w, t)]).countP (fun e => e.1 == v) = l.countP (fun e => e.1 == v) + (if w = v then 1 else 0) := by
  rw [List.countP_append]
  by_cases h : w = v <;> simp [h]

theorem count_map_fst (l : List (Wid × Time)) (v : Wid) :
    (l.map (·.1)).count v = l.countP (fun e => e.1 == v) :=
  List.countP_map

/-- An event of a live worker `w` alone: its record becomes `x`, it may enter or leave `ready` and `pending`, and
    `workersCount` drops if it exits; all other workers are referred to as before. -/
theorem invA_upd {s : State} (h : InvA s) {w : Wid} {x : Worker} {rd : List (Wid × Time)} {pd : List Wid} {n nc : Nat}
    {l : Cid → Loc} {r : Cid → List Wid} {o : Cid → List Bool} (hne : (s.workers w).phase ≠ .exited)
    (hoth : ∀ v, v ≠ w → rd.countP (fun e => e.1 == v) + pd.count v = cntR s v + s.pending.count v)
    (hw : rd.countP (fun e => e.1 == w) + pd.count w + (if x.reserved.isSome then 1 else 0) + x.chan.length +
            (if (s.workers w).phase = .waiting then 1 else 0) = occ s w + if x.phase = .waiting then 1 else 0)
    (hn : n = s.workersCount + (if x.phase = .exited then 0 else 1) - 1)
    (hstop : s.mustStop = true → rd = []) :
    InvA { s with workers := upd s.workers w x, ready := rd, pending := pd, workersCount := n,
                  nconns := nc, loc := l, recvBy := r, outcomes := o } := by
  refine ⟨fun v => ?_, fun v hv => ?_, ?_, ?_, hstop⟩
  · have := h.hW v
    simp only [occ, cntR, upd] at this hw ⊢
    by_cases hv : v = w
    · subst hv; simp only [if_true]; omega
    · have := hoth v hv
      simp only [cntR, if_neg hv] at this ⊢
      omega
  · have hvw : v ≠ w := fun e => hne (h.hDef w (e ▸ hv))
    simpa only [upd, if_neg hvw] using h.hDef v hv
  · -- the number of live workers changes by what `w` contributes, and `w` counted before
    show n = sumTo s.nextWid (live { s with workers := upd s.workers w x })
    have hsum := sumTo_update (f := live s) (g := live { s with workers := upd s.workers w x }) (lt_nextWid h hne)
      fun v hv => by simp only [live, upd, if_neg hv]
    have := h.hCount
    simp only [live, upd, if_true, if_neg hne] at hsum
    omega
  · have := h.hMax
    show n ≤ s.maxWorkers
    split at hn <;> omega

theorem stepA {s s' : State} (e : Event) (h : InvA s) (hs : step s e = some s') : InvA s' := by
  cases step_sound hs with
  | @pop w t hlast =>
    obtain ⟨ys, hys⟩ := List.getLast?_eq_some_iff.mp hlast
    have hcnt : ∀ v, cntR s v = ys.countP (fun e => e.1 == v) + if w = v then 1 else 0 := fun v => by
      simp only [cntR, hys, cntR_concat]
    obtain ⟨hph, hres, _⟩ := ready_idle h (cntR_pos hlast)
    rw [hys, List.dropLast_concat]
    refine invA_upd h (by rw [hph]; nofun) (fun v hv => ?_) ?_ (by simp [hph]) fun hm => ?_
    · rw [hcnt v, if_neg (Ne.symm hv)]; rfl
    · simp [occ, hcnt w, hres]; omega
    · rw [h.hStop hm] at hys; simp at hys
  | create hlast hlt =>
    have hex := h.hDef s.nextWid (Nat.le_refl _)
    obtain ⟨z1, z2, _, _⟩ := h.quiet (w := s.nextWid) (by rw [hex]; nofun)
    refine ⟨fun v => ?_, fun v hv => ?_, ?_, Nat.succ_le_of_lt hlt, h.hStop⟩
    · by_cases hv : v = s.nextWid
      · subst hv; simp only [cntR] at z1; simp [occ, cntR, upd, z1, z2]
      · simpa only [occ, cntR, upd, if_neg hv] using h.hW v
    · simpa only [upd, if_neg (Nat.ne_of_gt hv)] using h.hDef v (Nat.le_of_succ_le hv)
    · show s.workersCount + 1 = sumTo s.nextWid _ + _
      rw [h.hCount]
      congr 1
      · exact sumTo_congr fun v hv => by simp only [live, upd, if_neg (Nat.ne_of_lt hv)]
      · simp [live, upd]
  | reject => exact ⟨h.hW, h.hDef, h.hCount, h.hMax, h.hStop⟩
  | @send w c hres hch =>
    have hph := (h.reserved hres).1
    exact invA_upd h (by rw [hph]; nofun) (fun _ _ => rfl) (by simp [occ, cntR, hres, hch]) (by simp [hph]) h.hStop
  | @recvConn w _ _ hph hch | @recvNil w _ hph hch =>
    exact invA_upd h (by rw [hph]; nofun) (fun _ _ => rfl) (by simp [occ, cntR, hph, hch]; omega) (by simp) h.hStop
  | @finish w _ _ hph | @releaseStopped w _ hph _ | @exit w hph =>
    exact invA_upd h (by rw [hph]; nofun) (fun _ _ => rfl) (by simp [occ, cntR, hph]) (by simp) h.hStop
  | @release w t hph hm =>
    refine invA_upd h (by rw [hph]; nofun) (fun v hv => ?_) (by simp [occ, cntR, hph]; omega) (by simp)
      fun hm' => absurd hm' hm
    rw [cntR_concat, if_neg (Ne.symm hv)]; rfl
  | @clean crit =>
    refine ⟨fun v => ?_, h.hDef, h.hCount, h.hMax, fun hm => ?_⟩
    · -- the retired prefix moves from `ready` to `pending`
      have := h.hW v
      simp only [occ, cntR] at this ⊢
      rw [List.count_append, count_map_fst, ← this, ← List.take_append_drop (cleanCount s.ready crit) s.ready,
        List.countP_append]
      simp only [List.take_append_drop]
      omega
    · show s.ready.drop _ = []
      rw [h.hStop hm, List.drop_nil]
  | @notify w hc =>
    have hpos : 0 < s.pending.count w := List.count_pos_iff.mpr hc.1
    have hph := (h.pending hc.1).1
    refine invA_upd h (by rw [hph]; nofun) (fun v hv => ?_) (by simp [occ, cntR, hc.2]; omega) (by simp [hph]) h.hStop
    rw [List.count_erase_of_ne hv]; rfl
  | stopAgain => exact h
  | stop hm hall =>
    -- each nil `Stop` sends stands for one occurrence in `ready`
    refine ⟨fun v => ?_, h.hDef, h.hCount, h.hMax, fun _ => rfl⟩
    have := h.hW v
    simp only [occ, cntR] at this ⊢
    simp only [List.countP_nil, List.length_append, List.length_replicate]
    omega

/-! ### `InvB`: where each connection is, and its ghost history -/

/-- worker record `x` holds connection `c`: reserved for it, in its channel, or being served -/
def has (x : Worker) (c : Cid) : Prop :=
  x.reserved = some c ∨ some c ∈ x.chan ∨ x.phase = .serving c

/-- `loc c` names the one worker that holds `c`, and the ghost history of `c` is what its location allows -/
def ConnInv (s : State) (c : Cid) : Prop :=
  (∀ w, has (s.workers w) c ↔ s.loc c = .at w) ∧
  match s.loc c with
  | .fresh => s.nconns ≤ c ∧ s.recvBy c = [] ∧ s.outcomes c = []
  | .rejected => c < s.nconns ∧ s.recvBy c = [] ∧ s.outcomes c = []
  | .at w => c < s.nconns ∧ s.recvBy c = (if (s.workers w).phase = .serving c then [w] else []) ∧ s.outcomes c = []
  | .done w => c < s.nconns ∧ s.recvBy c = [w] ∧ (s.outcomes c).length = 1

def InvB (s : State) : Prop := ∀ c, ConnInv s c

theorem invB_init (m : Nat) : InvB (init m) := fun c => by
  simp [ConnInv, has, init, Worker.absent]

theorem ConnInv.fresh {s : State} {c : Cid} (h : ConnInv s c) (hc : s.nconns ≤ c) :
    s.loc c = .fresh ∧ s.recvBy c = [] ∧ s.outcomes c = [] ∧ ∀ w, ¬ has (s.workers w) c := by
  have h2 := h.2
  cases hl : s.loc c <;> simp only [hl] at h2 <;> first | omega | skip
  exact ⟨rfl, h2.2.1, h2.2.2, fun w hw => by simpa [hl] using (h.1 w).mp hw⟩

/-- connection `c` is not touched: same location and history, and every worker holds it as before -/
theorem ConnInv.frame {s s' : State} {c : Cid} (h : ConnInv s c) (hl : s'.loc c = s.loc c)
    (hr : s'.recvBy c = s.recvBy c) (ho : s'.outcomes c = s.outcomes c) (hn : s'.nconns ≤ c ↔ s.nconns ≤ c)
    (hh : ∀ w, has (s'.workers w) c ↔ has (s.workers w) c)
    (hs : ∀ w, (s'.workers w).phase = .serving c ↔ (s.workers w).phase = .serving c) : ConnInv s' c := by
  unfold ConnInv at h ⊢
  rw [hl, hr, ho]
  refine ⟨fun w => (hh w).trans (h.1 w), ?_⟩
  have h2 := h.2
  cases hloc : s.loc c <;> simp only [hloc, hs] at h2 ⊢ <;> exact ⟨by omega, h2.2⟩

/-- `frame` when only the record of worker `w` changes -/
theorem ConnInv.upd {s s' : State} {c : Cid} (h : ConnInv s c) {w : Wid} {x : Worker}
    (hw : s'.workers = upd s.workers w x) (hl : s'.loc c = s.loc c)
    (hr : s'.recvBy c = s.recvBy c) (ho : s'.outcomes c = s.outcomes c) (hn : s'.nconns ≤ c ↔ s.nconns ≤ c)
    (hh : has x c ↔ has (s.workers w) c) (hs : x.phase = .serving c ↔ (s.workers w).phase = .serving c) :
    ConnInv s' c := by
  refine h.frame hl hr ho hn (fun v => ?_) (fun v => ?_) <;> rw [hw] <;> unfold Fh.Model.WP.upd <;> split
  · subst v; exact hh
  · rfl
  · subst v; exact hs
  · rfl

/-- `getCh` hands the new connection `s.nconns` to a worker `w` that holds nothing: `x` is its new record -/
theorem invB_assign {s : State} (h : InvB s) {w : Wid} {x : Worker} {rd : List (Wid × Time)} {n nw : Nat}
    (hx : x.reserved = some s.nconns ∧ x.chan = [] ∧ ∀ c, x.phase ≠ .serving c)
    (hw : (s.workers w).reserved = none ∧ (s.workers w).chan = [] ∧ ∀ c, (s.workers w).phase ≠ .serving c) :
    InvB { s with ready := rd, workers := upd s.workers w x, workersCount := n, nextWid := nw,
                  nconns := s.nconns + 1, loc := upd s.loc s.nconns (.at w) } := fun c => by
  by_cases hc : c = s.nconns
  · subst hc
    obtain ⟨_, hr, ho, hnone⟩ := (h s.nconns).fresh (Nat.le_refl _)
    refine ⟨fun v => ?_, by simp [upd, hr, ho, hx]⟩
    by_cases hv : v = w
    · subst hv; simp [upd, has, hx]
    · simp [upd, hv, hnone v, Ne.symm hv]
  · refine (h c).upd rfl (if_neg hc) rfl rfl ?_ ?_ ?_
    · show s.nconns + 1 ≤ c ↔ _; omega
    · simp [has, hx, hw, Ne.symm hc]
    · simp [hx, hw]

theorem stepB {s s' : State} (e : Event) (ha : InvA s) (h : InvB s) (hs : step s e = some s') : InvB s' := by
  cases step_sound hs with
  | @pop w t hlast =>
    obtain ⟨hw1, hw2, hw3, _, _⟩ := ready_idle ha (cntR_pos hlast)
    exact invB_assign h ⟨rfl, hw3, by simp [hw1]⟩ ⟨hw2, hw3, by simp [hw1]⟩
  | create =>
    have hex := ha.hDef s.nextWid (Nat.le_refl _)
    obtain ⟨_, _, z3, z4⟩ := ha.quiet (w := s.nextWid) (by rw [hex]; nofun)
    exact invB_assign h ⟨rfl, rfl, by simp⟩ ⟨z3, z4, by simp [hex]⟩
  | reject =>
    intro c
    by_cases hc : c = s.nconns
    · subst hc
      obtain ⟨_, hr, ho, hnone⟩ := (h s.nconns).fresh (Nat.le_refl _)
      simp [ConnInv, upd, hnone, hr, ho]
    · exact (h c).frame (if_neg hc) rfl rfl (by show s.nconns + 1 ≤ c ↔ _; omega) (fun _ => Iff.rfl) fun _ => Iff.rfl
  | @send w c0 hres hch =>
    exact fun c => (h c).upd rfl rfl rfl rfl Iff.rfl (by simp [has, hres, hch, eq_comm]) Iff.rfl
  | @recvConn w c0 rest hph hch =>
    intro c
    by_cases hc : c = c0
    · subst hc
      have hl : s.loc c = .at w := ((h c).1 w).mp (.inr (.inl (by simp [hch])))
      have h2 := (h c).2
      simp only [hl, hph, reduceCtorEq, if_false] at h2
      refine ⟨fun v => ?_, by simp [hl, upd, h2]⟩
      rw [← (h c).1 v]
      simp only [upd]
      split
      · subst v; simp [has, hch]
      · rfl
    · refine (h c).upd rfl rfl (if_neg hc) rfl Iff.rfl ?_ ?_
      · simp [has, hph, hch, hc, Ne.symm hc]
      · simp [hph, Ne.symm hc]
  | @recvNil w rest hph hch =>
    exact fun c => (h c).upd rfl rfl rfl rfl Iff.rfl (by simp [has, hph, hch]) (by simp [hph])
  | @finish w c0 b hph =>
    obtain ⟨_, _, hres, hch⟩ := ha.quiet (w := w) (by rw [hph]; nofun)
    have hl : s.loc c0 = .at w := ((h c0).1 w).mp (.inr (.inr hph))
    intro c
    by_cases hc : c = c0
    · subst hc
      have h2 := (h c).2
      simp only [hl, hph, if_true] at h2
      refine ⟨fun v => ?_, by simp [upd, h2]⟩
      simp only [upd, if_true, reduceCtorEq, iff_false]
      split
      · simp [has, hres, hch]
      · next hv => rw [(h c).1 v, hl]; exact fun e => hv (Loc.at.inj e).symm
    · refine (h c).upd rfl (if_neg hc) rfl (if_neg hc) Iff.rfl ?_ ?_
      · simp [has, hph, Ne.symm hc]
      · simp [hph, Ne.symm hc]
  | @releaseStopped w _ hph _ | @release w _ hph _ | @exit w hph =>
    exact fun c => (h c).upd rfl rfl rfl rfl Iff.rfl (by simp [has, hph]) (by simp [hph])
  | clean => exact fun c => (h c).frame rfl rfl rfl Iff.rfl (fun _ => Iff.rfl) fun _ => Iff.rfl
  | @notify w hc =>
    exact fun c => (h c).upd rfl rfl rfl rfl Iff.rfl (by simp [has, hc.2]) Iff.rfl
  | stopAgain => exact h
  | stop =>
    exact fun c => (h c).frame rfl rfl rfl Iff.rfl (fun _ => by simp [has, List.mem_append, List.mem_replicate])
      fun _ => Iff.rfl

structure Inv (s : State) : Prop where
  a : InvA s
  b : InvB s

theorem inv_init (m : Nat) : Inv (init m) := ⟨invA_init m, invB_init m⟩

theorem step_inv {s s' : State} (e : Event) (h : Inv s) (hs : step s e = some s') : Inv s' :=
  ⟨stepA e h.a hs, stepB e h.a h.b hs⟩

theorem run_eq_iter (s : State) (evs : List Event) : run s evs = iter step s evs := by
  induction evs generalizing s with
  | nil => rfl
  | cons e es ih => simp only [run, iter, ih]

theorem run_inv {s s' : State} (evs : List Event) (h : Inv s) (hr : run s evs = some s') : Inv s' :=
  Iter.inv (fun _ e _ h hs => step_inv e h hs) h (run_eq_iter s evs ▸ hr)

theorem run_append {s : State} (e1 e2 : List Event) : run s (e1 ++ e2) = (run s e1).bind (fun s' => run s' e2) := by
  simp only [run_eq_iter, Iter.iter_append]

theorem run_frame {s s' : State} (evs : List Event) (hr : run s evs = some s') :
    s'.maxWorkers = s.maxWorkers ∧ (s.mustStop = true → s'.mustStop = true) :=
  Iter.rel (R := fun s s' : State => s'.maxWorkers = s.maxWorkers ∧ (s.mustStop = true → s'.mustStop = true))
    (fun _ => ⟨rfl, id⟩) (fun _ _ _ h1 h2 => ⟨h2.1.trans h1.1, h2.2 ∘ h1.2⟩)
    (fun _ _ _ hs => by cases step_sound hs <;> exact ⟨rfl, fun h => by first | exact h | rfl⟩)
    (run_eq_iter s evs ▸ hr)

/-- events that need no new external call: everything except getCh (a new Serve), clean and stop -/
def isAuto : Event → Bool
  | .getCh => false
  | .clean _ => false
  | .stop => false
  | _ => true

/-- every autonomous event strictly decreases the work and leaves alone what Serve/Stop decided -/
theorem auto_decreases {s s' : State} (e : Event) (h : InvA s) (ha : isAuto e = true) (hs : step s e = some s') :
    work s' < work s ∧ s'.nconns = s.nconns ∧ s'.mustStop = s.mustStop := by
  -- it is the event of one worker `w`: its rank drops, the rank of every other worker is unchanged
  suffices ∃ w, rank s' w < rank s w ∧ s'.nconns = s.nconns ∧ s'.mustStop = s.mustStop ∧ s'.nextWid = s.nextWid ∧
      ∀ v, v ≠ w → s'.workers v = s.workers v ∧ s'.pending.count v = s.pending.count v by
    obtain ⟨w, hlt, hc, hm, hn, hoth⟩ := this
    have hw : w < s.nextWid := lt_nextWid h fun he => by simp [rank, he] at hlt
    have := sumTo_update (f := rank s) (g := rank s') hw fun v hv => by
      simp only [rank, (hoth v hv).1, (hoth v hv).2]
    refine ⟨?_, hc, hm⟩
    simp only [work, hn]
    omega
  cases step_sound hs with
  | pop | create | reject | clean | stopAgain | stop => cases ha
  | @send w c hres hch =>
    have hph := (h.reserved hres).1
    exact ⟨w, by simp [rank, upd, hph, hres, hch, rankChan], rfl, rfl, rfl, fun v hv => ⟨if_neg hv, rfl⟩⟩
  | @recvConn w _ _ hph hch | @recvNil w _ hph hch =>
    exact ⟨w, by simp [rank, upd, hph, hch, rankChan]; omega, rfl, rfl, rfl, fun v hv => ⟨if_neg hv, rfl⟩⟩
  | @finish w _ _ hph | @releaseStopped w _ hph _ | @exit w hph =>
    exact ⟨w, by simp [rank, upd, hph], rfl, rfl, rfl, fun v hv => ⟨if_neg hv, rfl⟩⟩
  | @release w t hph hm =>
    obtain ⟨_, z2, z3, z4⟩ := h.quiet (w := w) (by rw [hph]; nofun)
    exact ⟨w, by simp [rank, upd, hph, z2, z3, z4, rankChan], rfl, rfl, rfl, fun v hv => ⟨if_neg hv, rfl⟩⟩
  | @notify w hc =>
    have hpos : 0 < s.pending.count w := List.count_pos_iff.mpr hc.1
    have hph := (h.pending hc.1).1
    exact ⟨w, by simp [rank, upd, hph, hc.2, rankChan]; omega, rfl, rfl, rfl,
      fun v hv => ⟨if_neg hv, List.count_erase_of_ne hv⟩⟩

/-- autonomous events never turn an accepted connection into a rejected one or vice versa -/
theorem auto_rejected {s s' : State} (e : Event) (hb : InvB s) (ha : isAuto e = true) (hs : step s e = some s') (c : Nat) :
    s'.loc c = .rejected ↔ s.loc c = .rejected := by
  cases step_sound hs <;> cases ha
  case finish w c0 b hph =>
    have hl := ((hb c0).1 w).mp (.inr (.inr hph))
    simp only [upd]
    split
    · subst c; simp [hl]
    · rfl
  all_goals rfl

theorem firstBusy_spec (s : State) (n : Nat) :
    match firstBusy s n with
    | some w => w < n ∧ rank s w > 0
    | none => ∀ x, x < n → rank s x = 0 := by
  induction n with
  | zero => exact nofun
  | succ n ih =>
    rw [firstBusy]
    cases hf : firstBusy s n with
    | some w => rw [hf] at ih; exact ⟨Nat.lt_succ_of_lt ih.1, ih.2⟩
    | none =>
      rw [hf] at ih
      by_cases hr : rank s n > 0
      · simpa only [if_pos hr] using ⟨Nat.lt_succ_self n, hr⟩
      · simp only [if_neg hr]
        exact fun x hx => (Nat.lt_succ_iff_lt_or_eq.mp hx).elim (ih x) fun e => by subst e; omega

theorem progress {s : State} (h : InvA s) {w : Wid} (hr : rank s w > 0) :
    ∃ e, nextEventOf s w = some e ∧ isAuto e = true ∧ (step s e).isSome = true := by
  unfold nextEventOf
  unfold rank at hr
  cases hph : (s.workers w).phase <;> simp only [hph] at hr ⊢
  · cases hres : (s.workers w).reserved with
    | some c => exact ⟨_, rfl, rfl, by simp [step, hres, (h.reserved hres).2]⟩
    | none =>
      cases hch : (s.workers w).chan with
      | cons x rest => exact ⟨_, rfl, rfl, by cases x <;> simp [step, hph, hch]⟩
      | nil =>
        by_cases hmem : w ∈ s.pending
        · exact ⟨.notify w, by simp [hmem], rfl, by simp [step, hmem, hch]⟩
        · simp [hres, hch, List.count_eq_zero_of_not_mem hmem, rankChan] at hr
  · exact ⟨_, rfl, rfl, by simp [step, hph]⟩
  · exact ⟨_, rfl, rfl, by simp [step, hph]; split <;> rfl⟩
  · exact ⟨_, rfl, rfl, by simp [step, hph]⟩
  · omega

theorem nextEvent_spec {s : State} (h : InvA s) :
    match nextEvent s with
    | none => work s = 0
    | some e => isAuto e = true ∧ (step s e).isSome = true := by
  have hf := firstBusy_spec s s.nextWid
  rw [nextEvent]
  split at hf
  · next w hw =>
    obtain ⟨e, he, hae⟩ := progress h hf.2
    simpa only [hw, Option.bind, he] using hae
  · next hw => rw [hw]; exact sumTo_eq_zero_iff.mpr hf

/-- from any state satisfying the invariant the continuation computed by `drainEvents` is executable, consists of
    autonomous events only, and ends with no work left -/
theorem drain_spec (fuel : Nat) {s : State} (h : Inv s) (hf : work s ≤ fuel) :
    ∃ s', run s (drainEvents fuel s) = some s' ∧ Inv s' ∧ work s' = 0 ∧ s'.nconns = s.nconns ∧
      s'.mustStop = s.mustStop ∧ (∀ c, s'.loc c = .rejected ↔ s.loc c = .rejected) ∧
      ∀ e ∈ drainEvents fuel s, isAuto e = true := by
  induction fuel generalizing s with
  | zero => exact ⟨s, rfl, h, by omega, rfl, rfl, fun _ => Iff.rfl, nofun⟩
  | succ fuel ih =>
    have hne := nextEvent_spec h.a
    rw [drainEvents]
    cases hn : nextEvent s with
    | none => rw [hn] at hne; exact ⟨s, rfl, h, hne, rfl, rfl, fun _ => Iff.rfl, nofun⟩
    | some e =>
      rw [hn] at hne
      obtain ⟨s1, hst⟩ := Option.isSome_iff_exists.mp hne.2
      obtain ⟨hlt, h1, h2⟩ := auto_decreases e h.a hne.1 hst
      obtain ⟨s', hr, hi, hw, hn', hm', hrej, hall⟩ := ih (step_inv e h hst) (by omega)
      simp only [hst]
      exact ⟨s', by simpa only [run, hst, Option.bind_some] using hr, hi, hw, hn'.trans h1, hm'.trans h2,
        fun c => (hrej c).trans (auto_rejected e h.b hne.1 hst c), List.forall_mem_cons.mpr ⟨hne.1, hall⟩⟩

/-! ### quiescence: no work left -/

theorem rankChan_eq_zero {l : List (Option Cid)} (h : rankChan l = 0) : l = [] := by
  cases l with
  | nil => rfl
  | cons x r => cases x <;> simp [rankChan] at h <;> omega

/-- with no work left a worker holds no connection, and is gone or idle in `ready` -/
theorem quiescent_worker {s : State} (h : InvA s) (h0 : work s = 0) (w : Wid) :
    (∀ c, ¬ has (s.workers w) c) ∧
    ((s.workers w).phase = .exited ∨ ((s.workers w).phase = .waiting ∧ cntR s w = 1)) := by
  have hr : rank s w = 0 := by
    by_cases hw : w < s.nextWid
    · exact sumTo_eq_zero_iff.mp h0 w hw
    · simp [rank, h.hDef w (by omega)]
  cases hph : (s.workers w).phase <;> simp only [rank, hph, reduceCtorEq] at hr
  · have hch := rankChan_eq_zero (l := (s.workers w).chan) (by omega)
    have h1 := h.hW w
    cases hres : (s.workers w).reserved <;> simp [occ, hph, hres, hch] at hr h1
    exact ⟨fun c => by simp [has, hph, hres, hch], .inr ⟨rfl, by omega⟩⟩
  · obtain ⟨_, _, hres, hch⟩ := h.quiet (w := w) (by rw [hph]; nofun)
    exact ⟨fun c => by simp [has, hph, hres, hch], .inl rfl⟩

theorem quiescent_conns {s : State} (h : Inv s) (h0 : work s = 0) (c : Nat) (hc : c < s.nconns) :
    (s.loc c = .rejected ∧ s.recvBy c = [] ∧ s.outcomes c = []) ∨
    (∃ w, s.loc c = .done w ∧ s.recvBy c = [w] ∧ (s.outcomes c).length = 1) := by
  have h2 := (h.b c).2
  cases hl : s.loc c <;> simp only [hl] at h2
  · omega
  · exact .inl ⟨rfl, h2.2⟩
  · next w => exact absurd (((h.b c).1 w).mpr hl) ((quiescent_worker h.a h0 w).1 c)
  · next w => exact .inr ⟨w, rfl, h2.2⟩

theorem quiescent_stopped {s : State} (h : InvA s) (h0 : work s = 0) (hm : s.mustStop = true) :
    s.workersCount = 0 ∧ ∀ w, (s.workers w).phase = .exited := by
  have hall : ∀ w, (s.workers w).phase = .exited := fun w =>
    (quiescent_worker h h0 w).2.elim id fun hw => by simp [cntR, h.hStop hm] at hw
  exact ⟨h.hCount.trans (sumTo_eq_zero_iff.mpr fun x _ => by simp [live, hall x]), hall⟩

theorem sorted_expired_iff (crit : Nat) : ∀ (times : List Nat) (i : Nat), times.Pairwise (· ≤ ·) → i < times.length →
    (times.getD i 0 < crit ↔ i < (times.takeWhile (· < crit)).length)
  | a :: r, 0, _, _ => by by_cases ha : a < crit <;> simp [ha]
  | a :: r, i + 1, hs, hi => by
    rw [List.pairwise_cons] at hs
    have hi : i < r.length := Nat.lt_of_succ_lt_succ hi
    by_cases ha : a < crit
    · simpa [ha] using sorted_expired_iff crit r i hs.2 hi
    · -- `a` has not expired, and nothing after it is older
      have := hs.1 (r.getD i 0) (by simp [List.getD_eq_getElem?_getD, hi])
      simp only [List.getD_cons_succ, List.takeWhile_cons, ha, decide_false]
      exact ⟨fun h => by omega, nofun⟩

theorem cleanSearch_spec (times : List Nat) (crit k : Nat)
    (hk : ∀ i, i < times.length → (times.getD i 0 < crit ↔ i < k)) :
    ∀ fuel lo hi, lo ≤ k → k ≤ hi → hi ≤ times.length → hi - lo < fuel → cleanSearch times crit fuel lo hi = k := by
  intro fuel
  induction fuel with
  | zero => intro lo hi _ _ _ h; omega
  | succ fuel ih =>
    intro lo hi h1 h2 h3 h4
    simp only [cleanSearch]
    split
    · -- the midpoint lies in `[lo, hi)`; nothing else about it is used
      have hm : lo ≤ (lo + hi - 1) / 2 ∧ (lo + hi - 1) / 2 < hi := by omega
      generalize (lo + hi - 1) / 2 = mid at hm ⊢
      have := hk mid (by omega)
      split
      · exact ih _ _ (by omega) h2 h3 (by omega)
      · exact ih _ _ h1 (by omega) (by omega) (by omega)
    · omega

theorem take_drop_takeWhile {α : Type} (p : α → Bool) (l : List α) :
    l.take (l.takeWhile p).length = l.takeWhile p ∧ l.drop (l.takeWhile p).length = l.dropWhile p :=
  List.append_inj ((List.take_append_drop _ l).trans List.takeWhile_append_dropWhile.symm)
    (List.length_take_of_le (List.takeWhile_sublist p).length_le)

theorem cleanCount_sorted (ready : List (Nat × Nat)) (crit : Nat) (hs : ready.Pairwise (fun a b => a.2 ≤ b.2)) :
    cleanCount ready crit = (ready.takeWhile (fun e => decide (e.2 < crit))).length := by
  have hk := fun i => sorted_expired_iff crit (ready.map (·.2)) i (List.pairwise_map.mpr hs)
  simp only [List.takeWhile_map, List.length_map] at hk
  exact cleanSearch_spec _ crit _ (fun i hi => hk i (by simpa using hi)) _ 0 _ (Nat.zero_le _)
    (List.takeWhile_sublist _).length_le (by simp) (by omega)

end Fh.Proofs.WorkerPool
