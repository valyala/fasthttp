/-
For C21: the invariant `Inv` of the routing state, the order `Ext` in which every operation moves it, and what a
write by HostClient.Do, Client.Do or the retry loop tells about the connection written to.
-/
import FhVerif.Model.TlsRoute
import FhVerif.Base.Run

namespace Fh.Proofs.TlsRoute
open Fh Fh.Model.TlsRoute

structure Inv (s : St) : Prop where
  /-- HostClients in `m` are plaintext clients for their key -/
  mOk : ∀ (k : Bytes) (i : Nat), (k, i) ∈ s.m → ∃ hc : HC, s.hcs[i]? = some hc ∧ hc.isTLS = false ∧ hc.addr = addMissingPort k false
  /-- HostClients in `ms` are TLS clients for their key -/
  msOk : ∀ (k : Bytes) (i : Nat), (k, i) ∈ s.ms → ∃ hc : HC, s.hcs[i]? = some hc ∧ hc.isTLS = true ∧ hc.addr = addMissingPort k true
  /-- every pooled connection was dialled by its HostClient, for its address, with its TLS setting -/
  poolOk : ∀ (i : Nat) (hc : HC), s.hcs[i]? = some hc → ∀ id ∈ hc.pool, s.conns[id]? = some (⟨hc.addr, hc.isTLS, i⟩ : Conn)
  /-- every connection's owner exists and has the connection's address and TLS setting -/
  connOk : ∀ (id : Nat) (cn : Conn), s.conns[id]? = some cn → ∃ hc : HC, s.hcs[cn.owner]? = some hc ∧ hc.addr = cn.addr ∧ hc.isTLS = cn.tls

theorem inv_empty : Inv ({} : St) :=
  ⟨fun _ _ h => (nomatch h), fun _ _ h => (nomatch h), fun _ _ h => (nomatch h), fun _ _ h => (nomatch h)⟩

theorem lookup_mem {k : Bytes} {i : Nat} : ∀ {l : List (Bytes × Nat)}, lookup k l = some i → (k, i) ∈ l
  | (k', v) :: rest, h => by
    rcases of_ite (c := (k' == k) = true) h with ⟨hk, hv⟩ | ⟨_, hr⟩
    · cases hv
      exact eq_of_beq hk ▸ List.mem_cons_self
    · exact List.mem_cons_of_mem _ (lookup_mem hr)

/-- HostClients keep their address and TLS setting; connections are never changed, only added -/
structure Ext (s s' : St) : Prop where
  hcKeep : ∀ (j : Nat) (hc : HC), s.hcs[j]? = some hc → ∃ hc' : HC, s'.hcs[j]? = some hc' ∧ hc'.addr = hc.addr ∧ hc'.isTLS = hc.isTLS
  connKeep : ∀ (id : Nat) (cn : Conn), s.conns[id]? = some cn → s'.conns[id]? = some cn

theorem Ext.refl (s : St) : Ext s s := ⟨fun _ hc h => ⟨hc, h, rfl, rfl⟩, fun _ _ h => h⟩

theorem Ext.trans {a b c : St} (h1 : Ext a b) (h2 : Ext b c) : Ext a c := by
  refine ⟨?_, fun id cn h => h2.connKeep id cn (h1.connKeep id cn h)⟩
  intro j hc h
  obtain ⟨hc1, e1, a1, t1⟩ := h1.hcKeep j hc h
  obtain ⟨hc2, e2, a2, t2⟩ := h2.hcKeep j hc1 e1
  exact ⟨hc2, e2, a2.trans a1, t2.trans t1⟩

/-- `s'` extends `s` and the invariant holds in it again: what every operation does -/
def Next (s s' : St) : Prop := Inv s' ∧ Ext s s'

/-- An extension that leaves the maps alone keeps the invariant when the pools are still good and every connection
    of the new state has its owner already in the old one. -/
theorem Inv.of_ext {s s' : St} (hinv : Inv s) (hext : Ext s s') (hm : s'.m = s.m) (hms : s'.ms = s.ms)
    (hpool : ∀ (i : Nat) (hc : HC), s'.hcs[i]? = some hc → ∀ id ∈ hc.pool, s'.conns[id]? = some (⟨hc.addr, hc.isTLS, i⟩ : Conn))
    (hconn : ∀ (id : Nat) (cn : Conn), s'.conns[id]? = some cn →
      ∃ hc : HC, s.hcs[cn.owner]? = some hc ∧ hc.addr = cn.addr ∧ hc.isTLS = cn.tls) : Next s s' := by
  refine ⟨⟨fun k i h => ?_, fun k i h => ?_, hpool, fun id cn h => ?_⟩, hext⟩
  · obtain ⟨hc, e, t, a⟩ := hinv.mOk k i (hm ▸ h)
    obtain ⟨hc', e', a', t'⟩ := hext.hcKeep i hc e
    exact ⟨hc', e', t'.trans t, a'.trans a⟩
  · obtain ⟨hc, e, t, a⟩ := hinv.msOk k i (hms ▸ h)
    obtain ⟨hc', e', a', t'⟩ := hext.hcKeep i hc e
    exact ⟨hc', e', t'.trans t, a'.trans a⟩
  · obtain ⟨hc, e, a, t⟩ := hconn id cn h
    obtain ⟨hc', e', a', t'⟩ := hext.hcKeep _ hc e
    exact ⟨hc', e', a'.trans a, t'.trans t⟩

section
variable {s : St} (hinv : Inv s) {i : Nat} {hc : HC}
include hinv

theorem inv_setPool (hi : s.hcs[i]? = some hc) (pool : List Nat)
    (hpool : ∀ id ∈ pool, s.conns[id]? = some (⟨hc.addr, hc.isTLS, i⟩ : Conn)) :
    Next s { s with hcs := s.hcs.set i { hc with pool := pool } } := by
  have hlt : i < s.hcs.length := (List.getElem?_eq_some_iff.1 hi).1
  refine hinv.of_ext ⟨fun j hc0 h => ?_, fun _ _ h => h⟩ rfl rfl (fun j hcj hj id hid => ?_) hinv.connOk
  · by_cases e : i = j
    · subst e
      cases hi.symm.trans h
      exact ⟨_, List.getElem?_set_self hlt, rfl, rfl⟩
    · exact ⟨hc0, (List.getElem?_set_ne e).trans h, rfl, rfl⟩
  · by_cases e : i = j
    · subst e
      cases (List.getElem?_set_self hlt).symm.trans hj
      exact hpool id hid
    · exact hinv.poolOk j hcj ((List.getElem?_set_ne e).symm.trans hj) id hid

theorem inv_addConn (hi : s.hcs[i]? = some hc) : Next s { s with conns := s.conns ++ [⟨hc.addr, hc.isTLS, i⟩] } := by
  have hold : ∀ (id : Nat) (cn : Conn), s.conns[id]? = some cn → (s.conns ++ [⟨hc.addr, hc.isTLS, i⟩])[id]? = some cn :=
    fun id cn h => (List.getElem?_append_left (List.getElem?_eq_some_iff.1 h).1).trans h
  refine hinv.of_ext ⟨fun _ hc0 h => ⟨hc0, h, rfl, rfl⟩, hold⟩ rfl rfl
    (fun j hcj hj id hid => hold _ _ (hinv.poolOk j hcj hj id hid)) fun id cn h => ?_
  rw [List.getElem?_append] at h
  split at h
  · exact hinv.connOk id cn h
  · cases List.mem_singleton.mp (List.mem_of_getElem? h)
    exact ⟨hc, hi, rfl, rfl⟩

theorem inv_addHC (hc : HC) (hp : hc.pool = []) : Next s { s with hcs := s.hcs ++ [hc] } := by
  refine hinv.of_ext ⟨fun j hc0 h => ⟨hc0, (List.getElem?_append_left (List.getElem?_eq_some_iff.1 h).1).trans h, rfl, rfl⟩,
    fun _ _ h => h⟩ rfl rfl (fun j hcj hj id hid => ?_) hinv.connOk
  rw [List.getElem?_append] at hj
  split at hj
  · exact hinv.poolOk j hcj hj id hid
  · cases List.mem_singleton.mp (List.mem_of_getElem? hj)
    rw [hp] at hid
    cases hid

end

section hcDo
variable (dialOk : Bytes → Bool) {s : St} {i : Nat} {hc : HC} (scheme : Bytes) (keep : Bool)

theorem hcDo_of_none (hi : s.hcs[i]? = none) : hcDo dialOk s i scheme keep = (s, .err) := by
  rw [hcDo, hi]

theorem hcDo_of_mismatch (hi : s.hcs[i]? = some hc) (hm : hc.isTLS ≠ isHTTPS scheme) :
    hcDo dialOk s i scheme keep = (s, .mismatch) := by
  rw [hcDo, hi]; exact if_pos (bne_iff_ne.mpr hm)

theorem hcDo_of_pooled (hi : s.hcs[i]? = some hc) (ht : hc.isTLS = isHTTPS scheme) {id : Nat}
    (hp : hc.pool.getLast? = some id) :
    hcDo dialOk s i scheme keep =
      ({ s with hcs := s.hcs.set i { hc with pool := if keep then hc.pool else hc.pool.dropLast } }, .wrote id) := by
  rw [hcDo, hi]; dsimp only
  rw [if_neg (by rw [ht, bne_self_eq_false]; exact Bool.false_ne_true), hp]

theorem hcDo_of_dialErr (hi : s.hcs[i]? = some hc) (ht : hc.isTLS = isHTTPS scheme) (hp : hc.pool.getLast? = none)
    (hd : ((hc.isTLS && !hc.cfgOk) || !dialOk hc.addr) = true) : hcDo dialOk s i scheme keep = (s, .err) := by
  rw [hcDo, hi]; dsimp only
  rw [if_neg (by rw [ht, bne_self_eq_false]; exact Bool.false_ne_true), hp]; dsimp only
  rw [if_pos hd]

theorem hcDo_of_dial (hi : s.hcs[i]? = some hc) (ht : hc.isTLS = isHTTPS scheme) (hp : hc.pool.getLast? = none)
    (hd : ¬((hc.isTLS && !hc.cfgOk) || !dialOk hc.addr) = true) :
    hcDo dialOk s i scheme keep =
      ({ s with hcs := s.hcs.set i { hc with pool := if keep then [s.conns.length] else [] },
                conns := s.conns ++ [(⟨hc.addr, hc.isTLS, i⟩ : Conn)] }, .wrote s.conns.length) := by
  rw [hcDo, hi]; dsimp only
  rw [if_neg (by rw [ht, bne_self_eq_false]; exact Bool.false_ne_true), hp]; dsimp only
  rw [if_neg hd]

end hcDo

/-- what one attempt of HostClient.Do guarantees; `r` = the state after the attempt and its result -/
def HcSpec (s : St) (i : Nat) (scheme : Bytes) (r : St × Res) : Prop :=
  Inv r.1 ∧ Ext s r.1 ∧
  (∀ id, r.2 = .wrote id → ∃ hc : HC, s.hcs[i]? = some hc ∧ hc.isTLS = isHTTPS scheme ∧
    r.1.conns[id]? = some (⟨hc.addr, hc.isTLS, i⟩ : Conn)) ∧
  (∀ hc : HC, s.hcs[i]? = some hc → hc.isTLS = isHTTPS scheme → r.2 ≠ .mismatch)

theorem hcDo_spec (dialOk : Bytes → Bool) {s : St} (hinv : Inv s) (i : Nat) (scheme : Bytes) (keep : Bool) :
    HcSpec s i scheme (hcDo dialOk s i scheme keep) := by
  cases hi : s.hcs[i]? with
  | none =>
    rw [hcDo_of_none dialOk scheme keep hi]
    exact ⟨hinv, Ext.refl s, fun _ h => (nomatch h), fun _ e => (nomatch hi.symm.trans e)⟩
  | some hc =>
    by_cases ht : hc.isTLS = isHTTPS scheme
    · cases hp : hc.pool.getLast? with
      | some id =>
        rw [hcDo_of_pooled dialOk scheme keep hi ht hp]
        have := inv_setPool hinv hi (if keep = true then hc.pool else hc.pool.dropLast) fun x hx =>
          hinv.poolOk i hc hi x (by
            cases keep
            · exact List.dropLast_subset _ hx
            · exact hx)
        refine ⟨this.1, this.2, fun _ h => ?_, fun _ _ _ h => nomatch h⟩
        cases h
        exact ⟨hc, hi, ht, hinv.poolOk i hc hi id (List.mem_of_getLast? hp)⟩
      | none =>
        by_cases hd : ((hc.isTLS && !hc.cfgOk) || !dialOk hc.addr) = true
        · rw [hcDo_of_dialErr dialOk scheme keep hi ht hp hd]
          exact ⟨hinv, Ext.refl s, fun _ h => (nomatch h), fun _ _ _ h => (nomatch h)⟩
        · rw [hcDo_of_dial dialOk scheme keep hi ht hp hd]
          -- the connection is dialled, then (if kept) pooled
          obtain ⟨h1, e1⟩ := inv_addConn hinv hi
          have hlast : (s.conns ++ [(⟨hc.addr, hc.isTLS, i⟩ : Conn)])[s.conns.length]? = some ⟨hc.addr, hc.isTLS, i⟩ :=
            List.getElem?_concat_length
          have := inv_setPool h1 hi (if keep = true then [s.conns.length] else []) fun x hx => by
            cases keep
            · cases hx
            · cases List.mem_singleton.mp hx; exact hlast
          refine ⟨this.1, e1.trans this.2, fun _ h => ?_, fun _ _ _ h => nomatch h⟩
          cases h
          exact ⟨hc, hi, ht, hlast⟩
    · rw [hcDo_of_mismatch dialOk scheme keep hi ht]
      exact ⟨hinv, Ext.refl s, fun _ h => (nomatch h), fun _ e h => by cases hi.symm.trans e; exact absurd h ht⟩

/-- the state Client.Do reaches before calling HostClient.Do when the host has no HostClient yet -/
def withClientHC (s : St) (host : Bytes) (isTLS : Bool) (cfgOk : Bool) : St :=
  if isTLS then { s with hcs := s.hcs ++ [⟨addMissingPort host isTLS, isTLS, [], cfgOk⟩], ms := (host, s.hcs.length) :: s.ms }
  else { s with hcs := s.hcs ++ [⟨addMissingPort host isTLS, isTLS, [], cfgOk⟩], m := (host, s.hcs.length) :: s.m }

section clientDo
variable (dialOk : Bytes → Bool) {s : St} (hinv : Inv s) (scheme host : Bytes) (keep : Bool)
include hinv

theorem inv_withClientHC (isTLS cfgOk : Bool) :
    Inv (withClientHC s host isTLS cfgOk) ∧ Ext s (withClientHC s host isTLS cfgOk) ∧
    (withClientHC s host isTLS cfgOk).hcs[s.hcs.length]? = some ⟨addMissingPort host isTLS, isTLS, [], cfgOk⟩ := by
  obtain ⟨h1, h2⟩ := inv_addHC hinv ⟨addMissingPort host isTLS, isTLS, [], cfgOk⟩ rfl
  have hlast : (s.hcs ++ [(⟨addMissingPort host isTLS, isTLS, [], cfgOk⟩ : HC)])[s.hcs.length]? =
      some ⟨addMissingPort host isTLS, isTLS, [], cfgOk⟩ := List.getElem?_concat_length
  -- the new map entry points at the new HostClient
  have hnew : ∀ {l : List (Bytes × Nat)} {k : Bytes} {j : Nat}, (k, j) ∈ (host, s.hcs.length) :: l → (k, j) ∉ l →
      ∃ hc : HC, (s.hcs ++ [(⟨addMissingPort host isTLS, isTLS, [], cfgOk⟩ : HC)])[j]? = some hc ∧ hc.isTLS = isTLS ∧
        hc.addr = addMissingPort k isTLS := fun hm hn => by
    cases (List.mem_cons.1 hm).resolve_right hn
    exact ⟨_, hlast, rfl, rfl⟩
  cases isTLS with
  | true =>
    exact ⟨⟨h1.mOk, fun k j hm => Classical.byCases (h1.msOk k j) (hnew hm), h1.poolOk, h1.connOk⟩, ⟨h2.hcKeep, h2.connKeep⟩, hlast⟩
  | false =>
    exact ⟨⟨fun k j hm => Classical.byCases (h1.mOk k j) (hnew hm), h1.msOk, h1.poolOk, h1.connOk⟩, ⟨h2.hcKeep, h2.connKeep⟩, hlast⟩

/-- what Client.Do guarantees for a request to `host`; `r` = the state after the call and its result -/
def Routed (s : St) (scheme host : Bytes) (r : St × Res) : Prop :=
  Inv r.1 ∧ Ext s r.1 ∧
  (∀ id, r.2 = .wrote id →
    ∃ (cn : Conn) (hc : HC), r.1.conns[id]? = some cn ∧ cn.tls = isHTTPS scheme ∧
      cn.addr = addMissingPort host (isHTTPS scheme) ∧ r.1.hcs[cn.owner]? = some hc ∧ hc.isTLS = isHTTPS scheme) ∧
  r.2 ≠ .mismatch

theorem routed_err : Routed s scheme host (s, .err) :=
  ⟨hinv, Ext.refl s, fun _ h => (nomatch h), fun h => (nomatch h)⟩

omit hinv in
theorem routed_hcDo {s1 : St} {i : Nat} {hc : HC} (hinv1 : Inv s1) (hext : Ext s s1) (hi : s1.hcs[i]? = some hc)
    (ht : hc.isTLS = isHTTPS scheme) (ha : hc.addr = addMissingPort host (isHTTPS scheme)) :
    Routed s scheme host (hcDo dialOk s1 i scheme keep) := by
  obtain ⟨g1, g2, g3, g4⟩ := hcDo_spec dialOk hinv1 i scheme keep
  refine ⟨g1, hext.trans g2, fun id hw => ?_, g4 hc hi ht⟩
  obtain ⟨hc', e', _, c'⟩ := g3 id hw
  cases hi.symm.trans e'
  obtain ⟨hc2, e2, _, t2⟩ := g2.hcKeep i hc hi
  exact ⟨_, hc2, c', ht, ha, e2, t2.trans ht⟩

theorem Inv.lookup {host : Bytes} {t : Bool} {i : Nat} (h : lookup host (if t then s.ms else s.m) = some i) :
    ∃ hc : HC, s.hcs[i]? = some hc ∧ hc.isTLS = t ∧ hc.addr = addMissingPort host t := by
  cases t
  · exact hinv.mOk host i (lookup_mem h)
  · exact hinv.msOk host i (lookup_mem h)

theorem clientDo_spec (cfgOk : Bool := true) : Routed s scheme host (clientDo dialOk s scheme host keep cfgOk) := by
  unfold clientDo
  by_cases hcomma : host.contains 44 = true
  · rw [if_pos hcomma]; exact routed_err hinv scheme host
  rw [if_neg hcomma]
  by_cases hsch : (!isHTTPS scheme && !isHTTP scheme) = true
  · rw [if_pos hsch]; exact routed_err hinv scheme host
  rw [if_neg hsch]
  dsimp only
  cases hl : lookup host (if isHTTPS scheme then s.ms else s.m) with
  | some i =>
    obtain ⟨hc, e0, t0, a0⟩ := hinv.lookup hl
    exact routed_hcDo dialOk scheme host keep hinv (Ext.refl s) e0 t0 a0
  | none =>
    obtain ⟨i1, i2, i3⟩ := inv_withClientHC hinv host (isHTTPS scheme) cfgOk
    exact routed_hcDo dialOk scheme host keep i1 i2 i3 rfl rfl

end clientDo

/-- after the first attempt the loop goes on with the rest of the script (a write that failed) or stops, which is
    the loop on the empty script -/
theorem retryOn_cons (dialOk : Bytes → Bool) (s : St) (i : Nat) (scheme : Bytes) (keep fails : Bool)
    (rest : List (Bytes × Bool × Bool)) {r : St × Res} (hr : hcDo dialOk s i scheme (keep && !fails) = r) :
    ∃ t, ((t = retryOn dialOk r.1 i rest ∧ ∃ id, r.2 = .wrote id) ∨ t = (r.1, [])) ∧
      retryOn dialOk s i ((scheme, keep, fails) :: rest) = (t.1, r.2 :: t.2) := by
  subst hr
  rw [retryOn]
  dsimp only
  split
  · rename_i id hw
    rw [hw]
    split
    · exact ⟨_, .inl ⟨rfl, id, rfl⟩, rfl⟩
    · exact ⟨_, .inr rfl, rfl⟩
  · exact ⟨_, .inr rfl, rfl⟩

theorem retryOn_spec (dialOk : Bytes → Bool) (i : Nat) : ∀ (atts : List (Bytes × Bool × Bool)) (s : St), Inv s →
    Inv (retryOn dialOk s i atts).1 ∧ Ext s (retryOn dialOk s i atts).1 ∧
    ∀ (k : Nat) (id : Nat), (retryOn dialOk s i atts).2[k]? = some (.wrote id) →
      ∃ (a : Bytes × Bool × Bool) (hc : HC), atts[k]? = some a ∧ s.hcs[i]? = some hc ∧ hc.isTLS = isHTTPS a.1 ∧
        (retryOn dialOk s i atts).1.conns[id]? = some (⟨hc.addr, isHTTPS a.1, i⟩ : Conn)
  | [], s, hinv => ⟨hinv, Ext.refl s, fun _ _ h => nomatch h⟩
  | (scheme, keep, fails) :: rest, s, hinv => by
    obtain ⟨g1, g2, g3, _⟩ := hcDo_spec dialOk hinv i scheme (keep && !fails)
    generalize hr : hcDo dialOk s i scheme (keep && !fails) = r at g1 g2 g3
    obtain ⟨t, ht, e⟩ := retryOn_cons dialOk s i scheme keep fails rest hr
    rw [e]
    -- the later attempts, seen from `s`: the HostClient keeps its address and TLS setting across the first one
    have ⟨i1, i2, i3⟩ : Inv t.1 ∧ Ext r.1 t.1 ∧ ∀ (k : Nat) (id : Nat), t.2[k]? = some (.wrote id) →
        ∃ (a : Bytes × Bool × Bool) (hc : HC), rest[k]? = some a ∧ s.hcs[i]? = some hc ∧ hc.isTLS = isHTTPS a.1 ∧
          t.1.conns[id]? = some (⟨hc.addr, isHTTPS a.1, i⟩ : Conn) := by
      rcases ht with ⟨rfl, id0, hw⟩ | rfl
      · obtain ⟨i1, i2, i3⟩ := retryOn_spec dialOk i rest _ g1
        refine ⟨i1, i2, fun k id h => ?_⟩
        obtain ⟨a, hc', ea, eh, th, ch⟩ := i3 k id h
        obtain ⟨hc, e0, _, _⟩ := g3 id0 hw
        obtain ⟨hc2, e2, a2, t2⟩ := g2.hcKeep i hc e0
        cases eh.symm.trans e2
        exact ⟨a, hc, ea, e0, t2 ▸ th, a2 ▸ ch⟩
      · exact ⟨g1, Ext.refl _, fun _ _ h => nomatch h⟩
    refine ⟨i1, g2.trans i2, fun k id h => ?_⟩
    cases k with
    | zero =>
      obtain ⟨hc, e0, t0, c0⟩ := g3 id (Option.some.inj h)
      exact ⟨_, hc, rfl, e0, t0, t0 ▸ i2.connKeep _ _ c0⟩
    | succ k => exact i3 k id h

end Fh.Proofs.TlsRoute
