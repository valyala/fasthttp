/-
The prefork transition system in rule form (`Step`: one constructor per branch of `step` that yields a state, guards as
hypotheses; `step_sound`), the supervision invariant and its preservation by every rule, and the termination of the final wait.
-/
import FhVerif.Model.Prefork
import FhVerif.Base.Run

namespace Fh.Proofs.Prefork
open Fh Fh.Wsum Fh.Model.Prefork

inductive Step (s : State) : Ev → State → Prop
  | spawnInit {k} (hpc : s.pc = .spawnInit k) :
      Step s .spawnOk { s with kids := s.kids ++ [Child.fresh], pc := .hookInit (k + 1) }
  | spawnRec {old} (hpc : s.pc = .respawn old) :
      Step s .spawnOk { s with kids := s.kids ++ [Child.fresh], pc := .hookRec old }
  | spawnFailInit {k} (hpc : s.pc = .spawnInit k) : Step s .spawnFail { s with pc := .shutCancel .spawn }
  | spawnFailRec {old} (hpc : s.pc = .respawn old) : Step s .spawnFail { s with pc := .shutCancel .spawn }
  | hookInit {k} (hpc : s.pc = .hookInit k) :
      Step s .hookOk { s with pc := if k < s.G then .spawnInit k else .ready }
  | hookRec {old} (hpc : s.pc = .hookRec old) : Step s .hookOk { s with pc := .waiting, recovered := s.recovered + 1 }
  | hookErrInit {k} (hpc : s.pc = .hookInit k) : Step s .hookErr { s with pc := .shutCancel .hook }
  | hookErrRec {old} (hpc : s.pc = .hookRec old) : Step s .hookErr { s with pc := .shutCancel .hook }
  | readyOk (hpc : s.pc = .ready) : Step s .readyOk { s with pc := .waiting }
  | readyErr (hpc : s.pc = .ready) : Step s .readyErr { s with pc := .shutCancel .ready }
  | childExit {i c} (hc : s.kids[i]? = some c) (hal : c.proc = .alive) :
      Step s (.childExit i) { s with kids := s.kids.set i { c with proc := .zombie } }
  | waitReturns {i c} (hc : s.kids[i]? = some c) (hz : c.proc = .zombie ∧ c.w = .waiting) :
      Step s (.waitReturns i)
        { s with kids := s.kids.set i { c with proc := .reaped, w := if s.backoffOn then .backoff else .sending } }
  | backoffDone {i c} (hc : s.kids[i]? = some c) (hw : c.w = .backoff) :
      Step s (.backoffDone i) { s with kids := s.kids.set i { c with w := .sending, backedOff := true } }
  | ctxDone {i c} (hc : s.kids[i]? = some c) (hw : s.cancelled ∧ (c.w = .backoff ∨ c.w = .sending)) :
      Step s (.ctxDone i) { s with kids := s.kids.set i { c with w := .done } }
  | deliver (hlen : s.sigCh.length < s.G) {i c} (hc : s.kids[i]? = some c) (hw : c.w = .sending) :
      Step s (.deliver i) { s with kids := s.kids.set i { c with w := .done, delivered := true }, sigCh := s.sigCh ++ [i] }
  | recv {i rest c} (hc : s.kids[i]? = some c) (hsig : s.sigCh = i :: rest) (hpc : s.pc = .waiting) :
      Step s .recv { s with kids := s.kids.set i { c with reported := true }, sigCh := rest, exited := s.exited + 1,
                            pc := if s.exited + 1 > s.T then .shutCancel .overRecovery else .respawn i }
  | cancel {e} (hpc : s.pc = .shutCancel e) : Step s .cancel { s with cancelled := true, pc := .shutTerm e }
  | sigterm {e} (hpc : s.pc = .shutTerm e) :
      Step s .sigterm { s with kids := overProcs (fun c => { c with termed := true }) s.kids, pc := .graceWait e }
  | graceDone {e} (hall : allDone s = true) (hpc : s.pc = .graceWait e) : Step s .graceDone { s with pc := .returned e }
  | graceTimeout {e} (hpc : s.pc = .graceWait e) : Step s .graceTimeout { s with graceFired := true, pc := .shutKill e }
  | kill {e} (hpc : s.pc = .shutKill e) :
      Step s .kill { s with
        kids := overProcs (fun c => { c with killed := true, proc := if c.proc = .alive then .zombie else c.proc }) s.kids,
        pc := .finalWait e }
  | finalDone {e} (hall : allDone s = true) (hpc : s.pc = .finalWait e) : Step s .finalDone { s with pc := .returned e }

theorem updKid_spec {s s' : State} {i : Nat} {f : Child → Option Child} (h : updKid s i f = some s') :
    ∃ c c', s.kids[i]? = some c ∧ f c = some c' ∧ s' = { s with kids := s.kids.set i c' } := by
  unfold updKid at h
  split at h
  · cases h
  · next c hc =>
    split at h <;> cases h
    exact ⟨c, _, hc, ‹_›, rfl⟩

theorem step_sound {s s' : State} {e : Ev} (h : step s e = some s') : Step s e s' := by
  cases e <;> simp only [step] at h
  case childExit i | waitReturns i | backoffDone i | ctxDone i =>
    obtain ⟨c, c', hc, hf, rfl⟩ := updKid_spec h
    split at hf <;> cases hf
    constructor <;> assumption
  case deliver i =>
    split at h
    · obtain ⟨_, h1, rfl⟩ := Option.map_eq_some_iff.mp h
      obtain ⟨c, c', hc, hf, rfl⟩ := updKid_spec h1
      split at hf <;> cases hf
      exact .deliver ‹_› hc ‹_›
    · cases h
  case recv =>
    split at h
    · obtain ⟨_, h1, rfl⟩ := Option.map_eq_some_iff.mp h
      obtain ⟨c, c', hc, hf, rfl⟩ := updKid_spec h1
      cases hf
      exact .recv hc ‹_› ‹_›
    · cases h
  case spawnFail => split at h <;> cases h <;> first | exact .spawnFailInit ‹_› | exact .spawnFailRec ‹_›
  case hookOk => split at h <;> cases h <;> first | exact .hookInit ‹_› | exact .hookRec ‹_›
  case hookErr => split at h <;> cases h <;> first | exact .hookErrInit ‹_› | exact .hookErrRec ‹_›
  all_goals (repeat' split at h) <;> cases h <;> constructor <;> assumption

/-- facts about one child (ordinal `i`) relative to the shared state -/
structure KidInv (sig : List Nat) (backoffOn cancelled graceFired : Bool) (i : Nat) (c : Child) : Prop where
  /-- the goroutine is in `cmd.Wait()` exactly while the process is not reaped -/
  wproc : c.w = .waiting ↔ c.proc ≠ .reaped
  deliv_done : c.delivered = true → c.w = .done
  rep_deliv : c.reported = true → c.delivered = true
  sig_iff : i ∈ sig ↔ (c.delivered = true ∧ c.reported = false)
  /-- with `RecoverInterval > 0` an exit is offered to the loop only after the backoff timer fired -/
  backoff : backoffOn = true → (c.w = .sending ∨ c.delivered = true) → c.backedOff = true
  termed_c : c.termed = true → cancelled = true
  killed_g : c.killed = true → graceFired = true ∧ c.termed = true ∧ c.proc ≠ .alive
  /-- before `cancel()` a goroutine ends only by delivering its child's exit -/
  quiet : c.w = .done → c.delivered = false → cancelled = true

theorem KidInv.reaped {sig : List Nat} {b cn g : Bool} {i : Nat} {c : Child} (h : KidInv sig b cn g i c)
    (hw : c.w = .done) : c.proc = .reaped :=
  Classical.byContradiction fun hp => by have := h.wproc.mpr hp; rw [hw] at this; cases this

theorem KidInv.undelivered {sig : List Nat} {b cn g : Bool} {i : Nat} {c : Child} (h : KidInv sig b cn g i c)
    (hw : c.w ≠ .done) : c.delivered = false ∧ c.reported = false ∧ i ∉ sig := by
  have hd : c.delivered = false := Bool.eq_false_iff.mpr fun hd => hw (h.deliv_done hd)
  refine ⟨hd, Bool.eq_false_iff.mpr fun hr => ?_, fun hi => ?_⟩
  · rw [h.rep_deliv hr] at hd; cases hd
  · rw [(h.sig_iff.mp hi).1] at hd; cases hd

/-- the per-child facts, and `sigCh` holds ordinals of started children, each at most once -/
structure KInv (kids : List Child) (sig : List Nat) (b cn g : Bool) : Prop where
  kid : ∀ i c, kids[i]? = some c → KidInv sig b cn g i c
  sigND : sig.Nodup
  sigLt : ∀ i ∈ sig, i < kids.length

def AllTermed (kids : List Child) : Prop := ∀ c ∈ kids, c.reported = false → c.termed = true
def AllKilled (kids : List Child) : Prop := ∀ c ∈ kids, c.reported = false → c.killed = true
def AllDone (kids : List Child) : Prop := ∀ c ∈ kids, c.w = .done

/-- what the error value says about the counters -/
def ErrP (e : Err) (G T len lv exited recovered : Nat) : Prop :=
  (e = .overRecovery → exited = T + 1 ∧ lv + 1 = G ∧ len = G + T ∧ recovered = T) ∧
  (e ≠ .overRecovery → exited ≤ T) ∧ len ≤ G + T ∧ exited ≤ T + 1

/-- counters by program counter: `len` = children started, `lv` = `len(childProcs)` -/
def PcP (pc : PC) (G T len lv exited recovered : Nat) : Prop :=
  match pc with
  | .spawnInit k => k < G ∧ len = k ∧ lv = k ∧ exited = 0 ∧ recovered = 0
  | .hookInit k => k ≤ G ∧ 0 < k ∧ len = k ∧ lv = k ∧ exited = 0 ∧ recovered = 0
  | .ready => len = G ∧ lv = G ∧ exited = 0 ∧ recovered = 0
  | .waiting => lv = G ∧ len = G + exited ∧ exited ≤ T ∧ recovered = exited
  | .respawn _ => lv + 1 = G ∧ len + 1 = G + exited ∧ exited ≤ T ∧ recovered + 1 = exited
  | .hookRec _ => lv = G ∧ len = G + exited ∧ exited ≤ T ∧ recovered + 1 = exited
  | .shutCancel e | .shutTerm e | .graceWait e | .shutKill e | .finalWait e | .returned e =>
    ErrP e G T len lv exited recovered

/-- how far the teardown has got, by program counter: which flags are set and what holds of all children -/
def ShutP (pc : PC) (cancelled graceFired : Bool) (allTermed allKilled allDn : Prop) : Prop :=
  match pc with
  | .shutTerm _ => cancelled = true ∧ graceFired = false
  | .graceWait _ => cancelled = true ∧ graceFired = false ∧ allTermed
  | .shutKill _ => cancelled = true ∧ graceFired = true ∧ allTermed
  | .finalWait _ => cancelled = true ∧ graceFired = true ∧ allTermed ∧ allKilled
  | .returned _ => cancelled = true ∧ allTermed ∧ (graceFired = true → allKilled) ∧ allDn
  | _ => cancelled = false ∧ graceFired = false

theorem ShutP_mono {pc : PC} {c g : Bool} {a k d a' k' d' : Prop} (h : ShutP pc c g a k d)
    (ha : a → a') (hk : k → k') (hd : d → d') : ShutP pc c g a' k' d' := by
  cases pc <;> simp only [ShutP] at h ⊢
  all_goals first
    | exact h
    | exact ⟨h.1, h.2.1, ha h.2.2⟩
    | exact ⟨h.1, h.2.1, ha h.2.2.1, hk h.2.2.2⟩
    | exact ⟨h.1, ha h.2.1, fun x => hk (h.2.2.1 x), hd h.2.2.2⟩

structure Inv (s : State) : Prop where
  k : KInv s.kids s.sigCh s.backoffOn s.cancelled s.graceFired
  pcI : PcP s.pc s.G s.T s.kids.length (live s) s.exited s.recovered
  shI : ShutP s.pc s.cancelled s.graceFired (AllTermed s.kids) (AllKilled s.kids) (AllDone s.kids)

theorem inv_init (G T : Nat) (b : Bool) : Inv (State.init G T b) := by
  refine ⟨⟨fun i c h => by simp [State.init] at h, .nil, fun i h => by simp [State.init] at h⟩, ?_, ?_⟩ <;>
    unfold State.init <;> by_cases hG : G = 0 <;> simp [hG, live, PcP, ShutP] <;> omega

theorem allDone_iff (s : State) : allDone s = true ↔ AllDone s.kids := by
  simp [allDone, AllDone, List.all_eq_true]

/-- child `i` is rewritten; `sigCh` changes at most at the entry `i` -/
theorem KInv.set {kids : List Child} {sig sig' : List Nat} {b cn g : Bool} {i : Nat} {c c' : Child}
    (h : KInv kids sig b cn g) (hc : kids[i]? = some c) (hsig : ∀ j, j ≠ i → (j ∈ sig' ↔ j ∈ sig))
    (hnd : sig'.Nodup) (hk : KidInv sig' b cn g i c') : KInv (kids.set i c') sig' b cn g := by
  refine ⟨fun j d hj => ?_, hnd, fun j hj => ?_⟩
  · rcases getElem?_set_some hj with ⟨rfl, rfl⟩ | ⟨hji, hj⟩
    · exact hk
    · exact { h.kid j d hj with sig_iff := (hsig j hji).trans (h.kid j d hj).sig_iff }
  · rw [List.length_set]
    by_cases hji : j = i
    · exact hji ▸ (List.getElem?_eq_some_iff.mp hc).1
    · exact h.sigLt j ((hsig j hji).mp hj)

/-- `cancelled` and `graceFired` are only ever set -/
theorem KInv.mono {kids : List Child} {sig : List Nat} {b c g c' g' : Bool} (h : KInv kids sig b c g)
    (hc : c = true → c' = true) (hg : g = true → g' = true) : KInv kids sig b c' g' :=
  ⟨fun i x hx =>
    have hk := h.kid i x hx
    { hk with
      termed_c := fun ht => hc (hk.termed_c ht)
      killed_g := fun hkl => ⟨hg (hk.killed_g hkl).1, (hk.killed_g hkl).2⟩
      quiet := fun h1 h2 => hc (hk.quiet h1 h2) }, h.sigND, h.sigLt⟩

/-- a new child: not yet in `sigCh`, since that holds ordinals of children started earlier -/
theorem KInv.snoc {kids : List Child} {sig : List Nat} {b cn g : Bool} (h : KInv kids sig b cn g) :
    KInv (kids ++ [Child.fresh]) sig b cn g := by
  refine ⟨fun i c hi => ?_, h.sigND, fun j hj => ?_⟩
  · by_cases hlt : i < kids.length
    · exact h.kid i c (List.getElem?_append_left hlt ▸ hi)
    · rw [List.getElem?_append_right (by omega)] at hi
      obtain ⟨_, rfl⟩ := List.getElem?_eq_some_iff.mp hi
      have hni : i ∉ sig := fun hmem => hlt (h.sigLt i hmem)
      constructor <;> simp [Child.fresh, hni]
  · have := h.sigLt j hj
    rw [List.length_append]; omega

theorem live_set {s : State} {i : Nat} {c c' : Child} (hc : s.kids[i]? = some c) (hrep : c'.reported = c.reported) :
    live { s with kids := s.kids.set i c' } = live s :=
  wsum_set_same _ _ _ _ _ hc (by rw [hrep])

/-- one child is rewritten, its `reported`, `termed`, `killed` untouched and a finished goroutine not revived, and
    `sigCh` changes at most at that child's entry: it is enough that the new record satisfies its own facts -/
theorem inv_set {s : State} {i : Nat} {c c' : Child} {sig' : List Nat} (hinv : Inv s) (hc : s.kids[i]? = some c)
    (hrep : c'.reported = c.reported) (hterm : c'.termed = c.termed) (hkill : c'.killed = c.killed)
    (hw : c.w = .done → c'.w = .done)
    (hsig : ∀ j, j ≠ i → (j ∈ sig' ↔ j ∈ s.sigCh)) (hnd : sig'.Nodup)
    (hk : KidInv sig' s.backoffOn s.cancelled s.graceFired i c') :
    Inv { s with kids := s.kids.set i c', sigCh := sig' } := by
  have hmem : c ∈ s.kids := List.mem_of_getElem? hc
  -- a property of all children carries over if `c'` has it whenever `c` has it
  have hall : ∀ {p : Child → Prop}, (p c → p c') → (∀ x ∈ s.kids, p x) → ∀ x ∈ s.kids.set i c', p x :=
    fun hp h x hx => (List.mem_or_eq_of_mem_set hx).elim (h x) fun e => e ▸ hp (h c hmem)
  refine ⟨hinv.k.set hc hsig hnd hk, ?_, ?_⟩
  · have := hinv.pcI
    rwa [← live_set hc hrep, ← List.length_set (as := s.kids) (i := i) (a := c')] at this
  · exact ShutP_mono hinv.shI (hall (p := fun x => x.reported = false → x.termed = true) (by rw [hrep, hterm]; exact id))
      (hall (p := fun x => x.reported = false → x.killed = true) (by rw [hrep, hkill]; exact id)) (hall hw)

theorem forall_overProcs {f : Child → Child} {p : Child → Prop} {kids : List Child}
    (h : ∀ c ∈ kids, c.reported = false → p (f c)) : ∀ d ∈ overProcs f kids, d.reported = false → p d := by
  intro d hd hr
  obtain ⟨c, hc, rfl⟩ := List.mem_map.mp hd
  by_cases hcr : c.reported = true
  · rw [if_pos hcr, hcr] at hr; cases hr
  · rw [if_neg hcr]; exact h c hc (Bool.eq_false_iff.mpr hcr)

/-- a loop over `childProcs` that leaves `reported` alone: the rewritten children satisfy their own facts -/
theorem inv_overProcs {s : State} {f : Child → Child} {pc' : PC} (hinv : Inv s) (hf : ∀ c, (f c).reported = c.reported)
    (hk : ∀ i c, s.kids[i]? = some c → c.reported = false →
      KidInv s.sigCh s.backoffOn s.cancelled s.graceFired i (f c))
    (hp : PcP pc' s.G s.T s.kids.length (live s) s.exited s.recovered)
    (hs : ShutP pc' s.cancelled s.graceFired (AllTermed (overProcs f s.kids)) (AllKilled (overProcs f s.kids))
      (AllDone (overProcs f s.kids))) :
    Inv { s with kids := overProcs f s.kids, pc := pc' } := by
  refine ⟨⟨fun i d hd => ?_, hinv.k.sigND, fun j hj => ?_⟩, ?_, hs⟩
  · simp only [overProcs, List.getElem?_map, Option.map_eq_some_iff] at hd
    obtain ⟨c, hc, rfl⟩ := hd
    split
    · exact hinv.k.kid i c hc
    · exact hk i c hc (Bool.eq_false_iff.mpr ‹_›)
  · simpa only [overProcs, List.length_map] using hinv.k.sigLt j hj
  · have hl : live { s with kids := overProcs f s.kids } = live s := by
      simp only [live, overProcs, wsum_map]
      refine wsum_congr _ _ _ fun c _ => ?_
      split
      · rfl
      · rw [hf, if_neg ‹_›]
    show PcP pc' s.G s.T (overProcs f s.kids).length (live { s with kids := overProcs f s.kids }) _ _
    rwa [hl, overProcs, List.length_map]

theorem inv_step {s s' : State} (e : Ev) (hinv : Inv s) (h : step s e = some s') : Inv s' := by
  have hp := hinv.pcI
  have hs := hinv.shI
  cases step_sound h with
  | spawnInit hpc | spawnRec hpc =>
    rw [hpc] at hp hs
    refine ⟨hinv.k.snoc, ?_, hs⟩
    simp [PcP, live, wsum_snoc, Child.fresh] at hp ⊢
    omega
  | spawnFailInit hpc | spawnFailRec hpc | hookErrInit hpc | hookErrRec hpc | readyErr hpc | hookRec hpc | readyOk hpc =>
    rw [hpc] at hp hs
    exact ⟨hinv.k, by simp only [PcP, ErrP, live, reduceCtorEq, false_imp_iff, ne_eq, not_false_eq_true, true_imp_iff, true_and] at hp ⊢; omega, hs⟩
  | hookInit hpc =>
    rw [hpc] at hp hs
    refine ⟨hinv.k, ?_, by split <;> exact hs⟩
    simp only [PcP, live] at hp
    split <;> simp only [PcP, live] <;> omega
  | @childExit i c hc hal =>
    have hk := hinv.k.kid i c hc
    exact inv_set hinv hc rfl rfl rfl id (fun _ _ => Iff.rfl) hinv.k.sigND
      { hk with
        wproc := by simpa [hal] using hk.wproc
        killed_g := fun h => ⟨(hk.killed_g h).1, (hk.killed_g h).2.1, nofun⟩ }
  | @waitReturns i c hc hz =>
    have hk := hinv.k.kid i c hc
    have hnd := (hk.undelivered (by rw [hz.2]; nofun)).1
    refine inv_set hinv hc rfl rfl rfl (fun h => by rw [hz.2] at h; cases h) (fun _ _ => Iff.rfl) hinv.k.sigND
      { hk with
        wproc := by cases s.backoffOn <;> simp
        deliv_done := fun hd => by rw [hnd] at hd; cases hd
        backoff := fun hb hw => by simp [hb, hnd] at hw
        killed_g := fun h => ⟨(hk.killed_g h).1, (hk.killed_g h).2.1, nofun⟩
        quiet := fun hw _ => by split at hw <;> cases hw }
  | @backoffDone i c hc hw =>
    have hk := hinv.k.kid i c hc
    exact inv_set hinv hc rfl rfl rfl (fun h => by rw [hw] at h; cases h) (fun _ _ => Iff.rfl) hinv.k.sigND
      { hk with
        wproc := by simpa [hw] using hk.wproc
        deliv_done := fun hd => by rw [(hk.undelivered (by rw [hw]; nofun)).1] at hd; cases hd
        backoff := fun _ _ => rfl
        quiet := nofun }
  | @ctxDone i c hc hw =>
    have hk := hinv.k.kid i c hc
    exact inv_set hinv hc rfl rfl rfl (fun _ => rfl) (fun _ _ => Iff.rfl) hinv.k.sigND
      { hk with
        wproc := by rcases hw.2 with h | h <;> simpa [h] using hk.wproc
        deliv_done := fun _ => rfl
        backoff := fun hb h => hk.backoff hb (.inr (h.resolve_left nofun))
        quiet := fun _ _ => hw.1 }
  | @deliver hlen i c hc hw =>
    have hk := hinv.k.kid i c hc
    obtain ⟨_, hnr, hni⟩ := hk.undelivered (by rw [hw]; nofun)
    exact inv_set hinv hc rfl rfl rfl (fun _ => rfl) (fun j hj => by simp [hj])
      (List.nodup_append.mpr ⟨hinv.k.sigND, List.pairwise_singleton _ _, fun a ha b hb hab =>
        hni (List.mem_singleton.mp hb ▸ hab ▸ ha)⟩)
      { hk with
        wproc := by simpa [hw] using hk.wproc
        deliv_done := fun _ => rfl
        rep_deliv := fun _ => rfl
        sig_iff := by simp [hnr]
        backoff := fun hb _ => hk.backoff hb (.inl hw)
        quiet := nofun }
  | @recv i rest c hc hsig hpc =>
    have hk := hinv.k.kid i c hc
    have hnd := hinv.k.sigND
    rw [hsig, List.nodup_cons] at hnd
    have hdr : c.delivered = true ∧ c.reported = false := hk.sig_iff.mp (by rw [hsig]; exact List.mem_cons_self)
    rw [hpc] at hp hs
    refine ⟨hinv.k.set hc (fun j hj => by simp [hsig, hj]) hnd.2
      { hk with rep_deliv := fun _ => hdr.1, sig_iff := by simp [hnd.1] }, ?_, by split <;> exact hs⟩
    have := wsum_set (fun c : Child => if c.reported then 0 else 1) s.kids i c { c with reported := true } hc
    simp only [hdr.2, PcP, live, Bool.false_eq_true, if_false, if_true] at this hp
    show PcP _ s.G s.T (s.kids.set i _).length (wsum _ (s.kids.set i _)) (s.exited + 1) s.recovered
    rw [List.length_set]
    split <;> simp [PcP, ErrP] <;> omega
  | cancel hpc =>
    rw [hpc] at hp hs
    exact ⟨hinv.k.mono (fun _ => rfl) id, hp, rfl, hs.2⟩
  | sigterm hpc =>
    rw [hpc] at hp hs
    refine inv_overProcs hinv (fun _ => rfl) (fun i c hc _ => ?_) hp
      ⟨hs.1, hs.2, forall_overProcs fun _ _ _ => rfl⟩
    have hk := hinv.k.kid i c hc
    exact { hk with
      termed_c := fun _ => hs.1
      killed_g := fun h => ⟨(hk.killed_g h).1, rfl, (hk.killed_g h).2.2⟩ }
  | graceDone hall hpc =>
    rw [hpc] at hp hs
    exact ⟨hinv.k, hp, hs.1, hs.2.2, fun h => (by rw [hs.2.1] at h; cases h), (allDone_iff s).mp hall⟩
  | graceTimeout hpc =>
    rw [hpc] at hp hs
    exact ⟨hinv.k.mono id (fun _ => rfl), hp, hs.1, rfl, hs.2.2⟩
  | kill hpc =>
    rw [hpc] at hp hs
    refine inv_overProcs hinv (fun _ => rfl) (fun i c hc hr => ?_) hp
      ⟨hs.1, hs.2.1, forall_overProcs hs.2.2, forall_overProcs fun _ _ _ => rfl⟩
    have hk := hinv.k.kid i c hc
    exact { hk with
      wproc := by split <;> simp [hk.wproc, *]
      killed_g := fun _ => ⟨hs.2.1, hs.2.2 c (List.mem_of_getElem? hc) hr, by split <;> simp [*]⟩ }
  | finalDone hall hpc =>
    rw [hpc] at hp hs
    exact ⟨hinv.k, hp, hs.1, hs.2.2.1, fun _ => hs.2.2.2, (allDone_iff s).mp hall⟩

theorem step_recv {s : State} {i : Nat} {rest : List Nat} (hinv : Inv s) (hw : s.pc = .waiting)
    (hsig : s.sigCh = i :: rest) :
    ∃ c : Child, step s .recv = some
      { s with kids := s.kids.set i { c with reported := true }, sigCh := rest, exited := s.exited + 1,
               pc := if s.exited + 1 > s.T then .shutCancel .overRecovery else .respawn i } := by
  have hi : i < s.kids.length := hinv.k.sigLt i (by rw [hsig]; exact List.mem_cons_self)
  exact ⟨s.kids[i], by simp only [step, hw, hsig, updKid, List.getElem?_eq_getElem hi, Option.map_some]⟩

theorem run_eq_iter (s : State) (evs : List Ev) : run s evs = iter step s evs := by
  induction evs generalizing s with
  | nil => rfl
  | cons e es ih => cases h : step s e <;> simp [run, iter, h, ih]

theorem inv_run (evs : List Ev) (s s' : State) (hinv : Inv s) (h : run s evs = some s') : Inv s' :=
  Iter.inv (fun _ e _ hi hs => inv_step e hi hs) hinv (run_eq_iter s evs ▸ h)

theorem run_frame (evs : List Ev) (s s' : State) (h : run s evs = some s') :
    s'.G = s.G ∧ s'.T = s.T ∧ s'.backoffOn = s.backoffOn :=
  Iter.inv (P := fun t => t.G = s.G ∧ t.T = s.T ∧ t.backoffOn = s.backoffOn)
    (fun _ _ _ ht hs => by cases step_sound hs <;> exact ht) ⟨rfl, rfl, rfl⟩ (run_eq_iter s evs ▸ h)

/-- steps the `startWait` goroutine of a child still has to take at most -/
def wmu (c : Child) : Nat :=
  match c.w with
  | .waiting => 3
  | .backoff => 2
  | .sending => 1
  | .done => 0

def mu (s : State) : Nat := wsum wmu s.kids

theorem mu_le (s : State) : mu s ≤ 3 * s.kids.length := by
  unfold mu
  induction s.kids with
  | nil => exact Nat.le_refl _
  | cons c l ih =>
    have : wmu c ≤ 3 := by unfold wmu; split <;> omega
    simp only [wsum_cons, List.length_cons]
    omega

theorem noLive_final {s : State} {e : Err} (hinv : Inv s) (hpc : s.pc = .finalWait e) :
    ∀ c ∈ s.kids, c.proc ≠ .alive := by
  intro c hc
  have hs := hinv.shI
  rw [hpc] at hs
  obtain ⟨i, hi⟩ := List.getElem?_of_mem hc
  have hk := hinv.k.kid i c hi
  cases hrp : c.reported
  · exact (hk.killed_g (hs.2.2.2 c hc hrp)).2.2
  · rw [hk.reaped (hk.deliv_done (hk.rep_deliv hrp))]; nofun

theorem mu_set_lt {s : State} {i : Nat} {c c' : Child} {sig : List Nat} (hc : s.kids[i]? = some c)
    (hlt : wmu c' < wmu c) : mu { s with kids := s.kids.set i c', sigCh := sig } < mu s := by
  have := wsum_set wmu s.kids i c c' hc
  simp only [mu]
  omega

/-- in the final `wg.Wait()` every enabled step either ends the wait or brings a goroutine closer to its end -/
theorem final_step {s s' : State} {e : Err} {ev : Ev} (hinv : Inv s) (hpc : s.pc = .finalWait e)
    (h : step s ev = some s') : s'.pc = .returned e ∨ (s'.pc = .finalWait e ∧ mu s' < mu s) := by
  cases step_sound h
  case childExit i c hc hal => exact absurd hal (noLive_final hinv hpc c (List.mem_of_getElem? hc))
  case waitReturns i c hc hz => exact .inr ⟨hpc, mu_set_lt hc (by cases s.backoffOn <;> simp [wmu, hz.2])⟩
  case backoffDone i c hc hw | deliver i c hc hw => exact .inr ⟨hpc, mu_set_lt hc (by simp [wmu, hw])⟩
  case ctxDone i c hc hw => exact .inr ⟨hpc, mu_set_lt hc (by rcases hw.2 with hw | hw <;> simp [wmu, hw])⟩
  -- the master is at `finalWait`: of its steps only `finalDone` is enabled
  all_goals rename_i hpc'; cases hpc.symm.trans hpc'
  exact .inl rfl

/-- after `prefork` returned nothing of it can move any more: no goroutine, no child -/
theorem returned_no_step {s : State} {e : Err} (hinv : Inv s) (hpc : s.pc = .returned e) (ev : Ev) :
    step s ev = none := by
  have hs := hinv.shI
  rw [hpc] at hs
  have hkid : ∀ (i : Nat) (c : Child), s.kids[i]? = some c → c.w = .done ∧ c.proc = .reaped := fun i c hc =>
    have hw := hs.2.2.2 c (List.mem_of_getElem? hc)
    ⟨hw, (hinv.k.kid i c hc).reaped hw⟩
  refine Option.eq_none_iff_forall_ne_some.mpr fun s' h => ?_
  cases step_sound h
  case childExit i c hc hal => rw [(hkid i c hc).2] at hal; cases hal
  case waitReturns i c hc hz => rw [(hkid i c hc).1] at hz; cases hz.2
  case backoffDone i c hc hw | deliver i c hc hw => rw [(hkid i c hc).1] at hw; cases hw
  case ctxDone i c hc hw => rw [(hkid i c hc).1] at hw; rcases hw.2 with h | h <;> cases h
  all_goals rename_i hpc'; cases hpc.symm.trans hpc'

theorem final_run_bounded : ∀ (evs : List Ev) (s s' : State) (e : Err), Inv s → s.pc = .finalWait e →
    run s evs = some s' → evs.length ≤ mu s + 1
  | [], _, _, _, _, _, _ => Nat.zero_le _
  | ev :: es, s, s', e, hinv, hpc, h => by
    simp only [run] at h
    split at h
    · cases h
    · next s1 hs1 =>
      have hinv1 := inv_step ev hinv hs1
      rcases final_step hinv hpc hs1 with hret | ⟨hfw, hlt⟩
      · cases es with
        | nil => simp
        | cons e2 es2 => simp [run, returned_no_step hinv1 hret e2] at h
      · have := final_run_bounded es s1 s' e hinv1 hfw h
        simp only [List.length_cons]
        omega

end Fh.Proofs.Prefork
