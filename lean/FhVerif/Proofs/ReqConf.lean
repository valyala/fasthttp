/- The stages of one serve-loop iteration (Model.ReqConf `top`, `firstByte`, `hook`, `beforeWrite`): which connection
   variables each leaves alone, and what it establishes for those it sets. -/
import FhVerif.Model.ReqConf

namespace Fh.Proofs.ReqConf
open Fh.Model.ReqConf

/-- after the loop top the read deadline in force was never set by an earlier request -/
theorem top_rdl (c : SrvCfg) (n : Nat) (v : Vars) (h : v.rdl = .request → v.reqRdl = true)
    (h1 : n = 1 → v.rdl ≠ .request) : (top c n v).rdl ≠ .request := by
  unfold top
  split
  · next a =>
    split
    · nofun
    · exact h1 a
  · dsimp only
    split
    · nofun
    · split
      · nofun
      · next d => exact fun hr => d (h hr)

theorem firstByte_rdl (c : SrvCfg) (n : Nat) (v : Vars) (h : v.rdl ≠ .request) : (firstByte c n v).rdl ≠ .request := by
  unfold firstByte
  split
  · nofun
  · split
    · nofun
    · exact h

/-- a read deadline that HeaderReceived sets is marked as the request's -/
theorem hook_rdl (c : SrvCfg) (k : Conf) (v : Vars) :
    v.rdl ≠ .request → (hook c k v).rdl = .request → (hook c k v).reqRdl = true := by
  unfold hook
  split
  · dsimp only
    split
    · exact fun _ _ => rfl
    · exact fun h hr => absurd hr h
  · exact fun h hr => absurd hr h

/-- up to HeaderReceived the write-deadline variables are not written, and the two limits only by HeaderReceived, from
    the server's settings and the request's own configuration (without a hook they are the server's, by `h`) -/
theorem upto_hook (c : SrvCfg) (n : Nat) (k : Conf) (v : Vars)
    (h : c.hasHook = false → v.maxBody = srvMax c ∧ v.writeTimeout = c.writeTimeout) :
    (hook c k (firstByte c n (top c n v))).maxBody = ownMax c k ∧
    (hook c k (firstByte c n (top c n v))).writeTimeout = (if c.hasHook ∧ k.wt > 0 then k.wt else c.writeTimeout) ∧
    (hook c k (firstByte c n (top c n v))).prevWriteTimeout = v.prevWriteTimeout ∧
    (hook c k (firstByte c n (top c n v))).wdlSet = v.wdlSet := by
  simp only [hook, firstByte, top, apply_ite Vars.maxBody, apply_ite Vars.writeTimeout, apply_ite Vars.prevWriteTimeout,
    apply_ite Vars.wdlSet, ite_self, and_true]
  cases hh : c.hasHook
  · simp [ownMax, hh, h hh]
  · simp [ownMax, hh]

/-- the write deadline in force at the write is decided by the write timeout of this very iteration -/
theorem beforeWrite_spec (v : Vars) (h : v.wdlSet = decide (v.prevWriteTimeout > 0)) :
    (beforeWrite v).maxBody = v.maxBody ∧ (beforeWrite v).writeTimeout = v.writeTimeout ∧
    (beforeWrite v).rdl = v.rdl ∧ (beforeWrite v).reqRdl = v.reqRdl ∧
    (beforeWrite v).wdlSet = decide (v.writeTimeout > 0) ∧
    (beforeWrite v).wdlSet = decide ((beforeWrite v).prevWriteTimeout > 0) := by
  unfold beforeWrite
  split
  · next a => exact ⟨rfl, rfl, rfl, rfl, (decide_eq_true a).symm, (decide_eq_true a).symm⟩
  · next a =>
    split
    · exact ⟨rfl, rfl, rfl, rfl, (decide_eq_false a).symm, rfl⟩
    · next b => exact ⟨rfl, rfl, rfl, rfl, h.trans ((decide_eq_false b).trans (decide_eq_false a).symm), h⟩

end Fh.Proofs.ReqConf
