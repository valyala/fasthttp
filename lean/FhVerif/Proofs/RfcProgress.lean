/-
Progress and fuel adequacy of the reference framer `Spec.Rfc.frame` (the byte-level monitor of C01/C02): every framed
message consumes at least one byte, so the fuel `input.length + 1` handed to the loops is never what ends them, and the end offsets it reports increase strictly
(`frameLoop_offsets`).
-/
import FhVerif.Spec.Rfc9112

namespace Fh.Proofs.RfcProgress
open Fh Fh.Spec.Rfc

theorem splitLine_rest_lt {b l rest : Bytes} (h : splitLine b = some (l, rest)) : rest.length < b.length := by
  have hl : b.length = (b.takeWhile (· != 10)).length + (b.dropWhile (· != 10)).length := by
    rw [← List.length_append, List.takeWhile_append_dropWhile]
  unfold splitLine at h
  split at h
  · cases h
  · rename_i hd
    cases h
    rw [hd] at hl
    exact hl ▸ Nat.lt_add_left _ (Nat.lt_succ_self _)

theorem readFields_rest_lt (fuel : Nat) (b : Bytes) (acc fs : List (Bytes × Bytes)) (rest : Bytes)
    (h : readFields fuel b acc = .ok fs rest) : rest.length < b.length := by
  fun_induction readFields fuel b acc with
  | case1 | case2 | case4 | case6 => cases h
  | case3 _ _ _ _ _ hs => cases h; exact splitLine_rest_lt hs
  | case5 _ _ _ _ hs _ _ _ _ _ ih | case7 _ _ _ _ _ hs _ _ _ _ _ ih => exact Nat.lt_trans (ih h) (splitLine_rest_lt hs)

theorem readFields_fuel : ∀ (fuel fuel' : Nat) (b : Bytes) (acc : List (Bytes × Bytes)),
    b.length < fuel → b.length < fuel' → readFields fuel b acc = readFields fuel' b acc := by
  intro fuel fuel' b acc h h'
  induction fuel generalizing fuel' b acc with
  | zero => omega
  | succ fuel ih =>
    obtain _ | fuel' := fuel'
    · omega
    unfold readFields
    split
    · rfl
    · have hlt := splitLine_rest_lt ‹_›
      split
      · rfl
      -- continuation line or field line: the arm ends without fuel, or goes on with the shorter rest
      · split <;> split <;> first | rfl | exact ih _ _ _ (by omega) (by omega)

theorem readChunks_rest_lt (fuel : Nat) (b acc body rest : Bytes)
    (h : readChunks fuel b acc = .ok body rest) : rest.length < b.length := by
  fun_induction readChunks fuel b acc with
  | case1 | case2 | case3 | case5 | case6 | case7 | case10 | case11 | case12 => cases h
  | case4 _ _ _ _ _ hs _ _ _ hf =>
    cases h; exact Nat.lt_trans (readFields_rest_lt _ _ _ _ _ hf) (splitLine_rest_lt hs)
  | case8 _ _ _ _ _ hs _ _ _ _ _ _ hr ih | case9 _ _ _ _ _ hs _ _ _ _ _ _ hr ih =>
    have h1 := splitLine_rest_lt hs
    have h2 := congrArg List.length hr
    have := ih h
    simp only [List.length_drop, List.length_cons] at h2
    omega

theorem readChunks_fuel : ∀ (fuel fuel' : Nat) (b acc : Bytes),
    b.length < fuel → b.length < fuel' → readChunks fuel b acc = readChunks fuel' b acc := by
  intro fuel fuel' b acc h h'
  induction fuel generalizing fuel' b acc with
  | zero => omega
  | succ fuel ih =>
    obtain _ | fuel' := fuel'
    · omega
    unfold readChunks
    split
    · rfl
    · rename_i l rest hs
      have hlt := splitLine_rest_lt hs
      split
      · rfl
      -- the trailer section is read with fuel of its own
      · rfl
      · split
        · rfl
        · -- of the shapes of what follows the chunk data, two go on: with a rest shorter than `rest`
          split <;> first
            | rfl
            | have h2 := congrArg List.length ‹List.drop _ rest = _›
              simp only [List.length_drop, List.length_cons] at h2
              exact ih _ _ _ (by omega) (by omega)

theorem dropEmptyLines_le (fuel : Nat) (b : Bytes) : (dropEmptyLines fuel b).length ≤ b.length := by
  fun_induction dropEmptyLines fuel b with
  | case1 | case4 => exact Nat.le_refl _
  | case2 _ _ ih => exact Nat.le_trans ih (by simp only [List.length_cons]; omega)
  | case3 _ _ ih => exact Nat.le_trans ih (Nat.le_succ _)

/-- a framed message ends strictly after it starts: the rest is strictly shorter than the input, and the recorded end
    offset is the start offset plus what was consumed -/
theorem frameOne_progress (off : Nat) (input : Bytes) (m : Msg) (rest : Bytes)
    (h : frameOne off input = .msg m rest) :
    rest.length < input.length ∧ m.endOff = off + (input.length - rest.length) := by
  have key {n v r : Bytes} {fs : List (Bytes × Bytes)}
      (hs : splitLine (dropEmptyLines input.length input) = some (n, v))
      (hf : readFields (v.length + 1) v [] = .ok fs r) : r.length < input.length :=
    Nat.lt_of_lt_of_le (Nat.lt_trans (readFields_rest_lt _ _ _ _ _ hf) (splitLine_rest_lt hs))
      (dropEmptyLines_le _ _)
  revert h
  -- the three ways a message is framed: no body, Content-Length, chunked
  fun_cases frameOne off input with
  | case1 | case2 | case3 | case4 | case5 | case6 | case7 | case9 | case11 | case12 => nofun
  | case8 _ _ _ _ hs _ _ _ _ _ _ hf =>
    intro h; cases h
    exact ⟨key hs hf, rfl⟩
  | case10 _ _ _ _ hs _ _ _ _ _ _ hf =>
    intro h; cases h
    exact ⟨Nat.lt_of_le_of_lt (List.length_drop ▸ Nat.sub_le ..) (key hs hf), rfl⟩
  | case13 _ _ _ _ hs _ _ _ _ _ _ hf _ _ _ _ _ _ hc =>
    intro h; cases h
    exact ⟨Nat.lt_trans (readChunks_rest_lt _ _ _ _ _ hc) (key hs hf), rfl⟩

theorem frameLoop_fuel : ∀ (fuel fuel' off : Nat) (input : Bytes) (acc : List Msg),
    input.length < fuel → input.length < fuel' → frameLoop fuel off input acc = frameLoop fuel' off input acc := by
  intro fuel
  induction fuel with
  | zero => intro fuel' off input acc h; omega
  | succ fuel ih =>
    intro fuel' off input acc h h'
    cases fuel' with
    | zero => omega
    | succ fuel' =>
      unfold frameLoop
      split
      · rfl
      · rename_i m rest hm
        have := (frameOne_progress off input m rest hm).1
        exact ih _ _ _ _ (by omega) (by omega)

theorem frameLoop_offsets (fuel off : Nat) (input : Bytes) (acc : List Msg) (total : Nat)
    (ht : off + input.length = total) (hle : ∀ m ∈ acc, m.endOff ≤ off) (hp : (acc.map (·.endOff)).Pairwise (· > ·)) :
    ((frameLoop fuel off input acc).1.map (·.endOff)).Pairwise (· < ·) ∧
      ∀ m ∈ (frameLoop fuel off input acc).1, m.endOff ≤ total := by
  fun_induction frameLoop fuel off input acc with
  | case1 off input acc | case2 _ off input acc =>
    exact ⟨by rw [List.map_reverse, List.pairwise_reverse]; exact hp,
      fun m hm => Nat.le_trans (hle m (List.mem_reverse.1 hm)) (ht ▸ Nat.le_add_right ..)⟩
  | case3 _ off input acc m rest hm ih =>
    obtain ⟨h1, h2⟩ := frameOne_progress off input m rest hm
    have hoff : off ≤ m.endOff := h2 ▸ Nat.le_add_right ..
    refine ih (by omega) (fun m' hm' => ?_) (List.pairwise_cons.2 ⟨fun e he => ?_, hp⟩)
    · rcases List.mem_cons.1 hm' with rfl | hin
      · exact Nat.le_refl _
      · exact Nat.le_trans (hle m' hin) hoff
    · obtain ⟨m', hin, rfl⟩ := List.mem_map.1 he
      show m'.endOff < m.endOff
      exact Nat.lt_of_le_of_lt (hle m' hin) (h2 ▸ Nat.lt_add_of_pos_right (Nat.sub_pos_of_lt h1))

end Fh.Proofs.RfcProgress
