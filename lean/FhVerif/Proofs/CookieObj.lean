/-
Helper lemmas for C06, object life time: ParseBytes as a state transformer agrees with ParseBytes as a function, and
whatever ParseBytes returns is a cookie whose text fields are free of ';', CR, LF (so the round-trip theorem applies
to re-serialised cookies, whatever the object went through before).  Core Lean only.
-/
import FhVerif.Proofs.Cookie

namespace Fh.Proofs.Cookie
open Fh Fh.Model

theorem applyAttrsSt_ok (D : DateCodec) (l : List (Bytes × Bytes)) : ∀ c c',
    ckApplyAttrs D c l = .ok c' ↔ ckApplyAttrsSt D c l = (c', none) := by
  induction l with
  | nil => intro c c'; simp [ckApplyAttrs, ckApplyAttrsSt]
  | cons kv rest ih =>
    intro c c'
    simp only [ckApplyAttrs, ckApplyAttrsSt]
    cases h : ckApplyAttr D c kv with
    | ok c1 => simp only [ih c1 c']
    | error e => simp

theorem parseInto_ok (D : DateCodec) (src : Bytes) (c : Cookie) :
    Cookie.parseBytes D src = .ok c ↔ Cookie.parseInto D src = (c, none) := by
  unfold Cookie.parseBytes Cookie.parseInto
  split
  · simp
  · simp only
    split
    · simp
    · exact applyAttrsSt_ok D _ _ c

theorem splitKV_noSemi (p : Bytes) (hp : NoSemi p) : NoSemi (ckSplitKV p).1 ∧ NoSemi (ckSplitKV p).2 :=
  ⟨fun x hx => hp x ((ckSplitKV_subset p).1 hx), fun x hx => hp x ((ckSplitKV_subset p).2 hx)⟩

/-- what every cookie produced by ParseBytes satisfies -/
structure Parsed (c : Cookie) : Prop where
  clean : Clean c
  maxAge : c.maxAge ≤ 2 ^ 63 - 1
  expire : c.expire ≠ some 0

/-- the updates a successful iteration of the attribute loop can make -/
theorem applyAttr_cases (D : DateCodec) (c : Cookie) (kv : Bytes × Bytes) (motive : Cookie → Prop)
    (maxAge : ∀ n, parseUint 64 kv.2 = .ok n → motive { c with maxAge := n })
    (expire : ∀ t, D.parse kv.2 = some t → motive { c with expire := if t = 0 then none else some t })
    (domain : motive { c with domain := removeNewLines kv.2 })
    (path : motive { c with path := removeNewLines kv.2 })
    (sameSite : ∀ m, motive { c with sameSite := m })
    (same : motive c)
    (httpOnly : motive { c with httpOnly := true })
    (secure : motive { c with secure := true })
    (partitioned : motive { c with partitioned := true }) :
    ∀ c', ckApplyAttr D c kv = .ok c' → motive c' := by
  unfold ckApplyAttr
  dsimp only
  refine ite_eq_cases ?_ (ite_eq_cases ?_ (ok_cases same))
  · refine ite_eq_cases ?_ ?_
    · cases hp : parseUint 64 kv.2
      · exact error_cases
      · exact ok_cases (maxAge _ hp)
    refine ite_eq_cases ?_ ?_
    · cases hp : D.parse kv.2
      · exact error_cases
      · exact ok_cases (expire _ hp)
    refine ite_eq_cases (ite_eq_cases (ok_cases domain) error_cases) ?_
    refine ite_eq_cases (ite_eq_cases (ok_cases path) error_cases) ?_
    refine ite_eq_cases ?_ (ok_cases same)
    refine ite_eq_cases (ok_cases (sameSite _)) ?_
    refine ite_eq_cases (ok_cases (sameSite _)) ?_
    exact ite_eq_cases (ok_cases (sameSite _)) (ok_cases same)
  · refine ite_eq_cases (ok_cases httpOnly) ?_
    refine ite_eq_cases (ok_cases secure) ?_
    refine ite_eq_cases (ok_cases (sameSite _)) ?_
    exact ite_eq_cases (ok_cases partitioned) (ok_cases same)

theorem applyAttr_parsed (D : DateCodec) (c c' : Cookie) (kv : Bytes × Bytes) (hc : Parsed c)
    (hk : NoSemi kv.2) (h : ckApplyAttr D c kv = .ok c') : Parsed c' := by
  -- `Parsed` looks at the text fields, max-age and expire only
  have flag : ∀ {m h s p}, Parsed { c with sameSite := m, httpOnly := h, secure := s, partitioned := p } :=
    ⟨{ hc.clean with }, hc.maxAge, hc.expire⟩
  refine applyAttr_cases D c kv Parsed (fun n hn => ⟨{ hc.clean with }, ?_, hc.expire⟩)
    (fun t _ => ⟨{ hc.clean with }, hc.maxAge, ?_⟩)
    ⟨{ hc.clean with domain := removeNewLines_noSemi _ hk, domainNL := removeNewLines_noNL _ }, hc.maxAge, hc.expire⟩
    ⟨{ hc.clean with path := removeNewLines_noSemi _ hk, pathNL := removeNewLines_noNL _ }, hc.maxAge, hc.expire⟩
    (fun _ => flag) hc flag flag flag c' h
  · have := (Props.C30.parseUint_exact 64 (Or.inl rfl) kv.2 n).1 hn
    simp only [Spec.maxInt] at this
    show n ≤ 2 ^ 63 - 1
    omega
  · show (if t = 0 then none else some t) ≠ some 0
    split <;> simp [*]

theorem applyAttrs_parsed (D : DateCodec) (l : List (Bytes × Bytes)) (hl : ∀ kv ∈ l, NoSemi kv.2) :
    ∀ c c', Parsed c → ckApplyAttrs D c l = .ok c' → Parsed c' := by
  induction l with
  | nil => rintro c c' hc ⟨⟩; exact hc
  | cons kv rest ih =>
    intro c c' hc h
    have ⟨hkv, hrest⟩ := List.forall_mem_cons.1 hl
    rw [ckApplyAttrs] at h
    split at h
    · exact ih hrest _ c' (applyAttr_parsed D c _ kv hc hkv ‹_›) h
    · cases h

theorem parse_parsed (D : DateCodec) (src : Bytes) (c : Cookie) (h : Cookie.parseBytes D src = .ok c) : Parsed c := by
  have hpieces : ∀ p ∈ ckPieces src, NoSemi p := ckPieces_forall src fun _ _ h => h
  unfold Cookie.parseBytes at h
  split at h
  · cases h
  · rename_i p ps hp
    rw [hp] at hpieces
    have ⟨hp0, hps⟩ := List.forall_mem_cons.1 hpieces
    have hp0 := splitKV_noSemi p hp0
    simp only at h
    split at h
    · cases h
    · refine applyAttrs_parsed D _ ?_ _ c ?_ h
      · exact List.forall_mem_map.2 fun q hq => (splitKV_noSemi q (hps q hq)).2
      · exact ⟨⟨removeNewLines_noSemi _ hp0.1, removeNewLines_noSemi _ hp0.2, nofun, nofun,
          removeNewLines_noNL _, removeNewLines_noNL _, nofun, nofun⟩, (by decide : (0 : Int) ≤ 2 ^ 63 - 1), nofun⟩

end Fh.Proofs.Cookie
