/-
Helper lemmas for C22: the stackless queue invariant (every call that returned had its job run exactly once), what a
body compressor and the handler wrappers do case by case, the copy loop, and facts about HasAcceptEncodingBytes'
first-occurrence split and the Vary list.  Core Lean only.
-/
import FhVerif.Model.CompressC22
import FhVerif.Model.StacklessC22
import FhVerif.Base.Run

namespace Fh.Proofs.CompressC22
open Fh Fh.Model.C22 List

def places (s : QSt) : List Nat := s.queue ++ (s.running ++ (s.finished ++ s.returned))

/-- No call is in two places (waiting, running, finished, returned) or twice in one, and the completed runs of `f` are,
    up to order, the calls that are finished or have returned — so the job of a returned call has run exactly once. -/
structure QInv (s : QSt) : Prop where
  nodup : (places s).Nodup
  exec : s.executed ~ s.finished ++ s.returned

theorem qinv_init : QInv {} := ⟨nodup_nil, .nil⟩

/-- a call that was nowhere enters a place -/
theorem QInv.enter {s s' : QSt} (h : QInv s) {id : Nat} (hk : ¬ s.known id) (hp : places s' ~ id :: places s)
    (he : s'.executed ~ s'.finished ++ s'.returned) : QInv s' :=
  ⟨hp.nodup_iff.mpr (nodup_cons.mpr ⟨by simpa only [places, mem_append, QSt.known] using hk, h.nodup⟩), he⟩

/-- a call moves from one place to the next -/
theorem perm_move {a : Nat} {l : List Nat} (h : a ∈ l) (r : List Nat) : l.erase a ++ a :: r ~ l ++ r :=
  perm_middle.trans ((perm_cons_erase h).append_right r).symm

theorem qstep_inv {inl : Bool} {cap workers : Nat} {s s' : QSt} {e : QEv} (h : QInv s)
    (hfull : inl = true ∨ ∀ id, e ≠ .full id) (hs : qstep inl cap workers s e = some s') : QInv s' := by
  cases e with
  | submit id =>
    obtain ⟨hc, rfl⟩ := of_guard hs
    exact h.enter hc.1 (by rw [places, places, append_assoc]; exact perm_middle) h.exec
  | full id =>
    obtain ⟨hc, rfl⟩ := of_guard hs
    rw [hfull.resolve_right fun hn => hn id rfl, if_pos rfl]
    exact h.enter hc.1 ((((perm_middle.append_left s.running).trans perm_middle).append_left s.queue).trans perm_middle)
      ((h.exec.cons id).trans perm_middle.symm)
  | take id =>
    rw [qstep] at hs
    split at hs
    · next hd tl hq =>
      obtain ⟨hc, rfl⟩ := of_guard hs
      refine ⟨(Perm.nodup_iff ?_).mpr h.nodup, h.exec⟩
      rw [places, places, hq, hc.1]; exact perm_middle
    · cases hs
  | done id =>
    obtain ⟨hr, rfl⟩ := of_guard hs
    exact ⟨((perm_move hr _).append_left s.queue).nodup_iff.mpr h.nodup, h.exec.cons id⟩
  | ret id =>
    obtain ⟨hf, rfl⟩ := of_guard hs
    have hm := perm_move hf s.returned
    exact ⟨((hm.append_left s.running).append_left s.queue).nodup_iff.mpr h.nodup, h.exec.trans hm.symm⟩

theorem QInv.ran_once {s : QSt} (h : QInv s) {id : Nat} (hret : id ∈ s.returned) : s.executed.count id = 1 := by
  have hnd : (s.finished ++ s.returned).Nodup := (nodup_append.mp (nodup_append.mp h.nodup).2.1).2.1
  rw [h.exec.count_eq, hnd.count, if_pos (mem_append_right _ hret)]

theorem hasFull_cons {e : QEv} {es : List QEv} (h : hasFull (e :: es) = false) : (∀ id, e ≠ .full id) ∧ hasFull es = false := by
  cases e with
  | full _ => cases h
  | _ => exact ⟨nofun, h⟩

theorem qrun_inv {inl : Bool} {cap workers : Nat} {evs : List QEv} (hg : inl = true ∨ hasFull evs = false) :
    ∀ {s s' : QSt}, QInv s → qrun inl cap workers s evs = some s' → QInv s' := by
  induction evs with
  | nil => intro s s' h hr; cases hr; exact h
  | cons e rest ih =>
    intro s s' h hr
    rw [qrun] at hr
    split at hr
    · next s1 hs1 =>
      exact ih (hg.imp_right fun hf => (hasFull_cons hf).2)
        (qstep_inv h (hg.imp_right fun hf => (hasFull_cons hf).1) hs1) hr
    · cases hr

/-- the body a compressor leaves: the encoded stream for a stream, else the buffer with the encoding of `bodyBytes()` -/
def encBody (c : Codecs) (k : Kind) (level : Int) : Body → Body
  | .stream reads => .stream [c.encStream k level reads]
  | b => .buf (c.enc k level b.bytes)

theorem dec_encBody (c : Codecs) (k : Kind) (level : Int) (b : Body) :
    c.dec k (encBody c k level b).bytes = some b.bytes := by
  cases b with
  | stream reads => exact (congrArg (c.dec k) flatten_singleton).trans (c.roundtripStream k level reads)
  | _ => exact c.roundtrip k level _

/-- gzipBody / deflateBody / brotliBody / zstdBody leave the response alone (already encoded, not a compressible type,
    or a buffered body below minCompressLen), or — only when it has no Content-Encoding yet — set Content-Encoding and
    Vary and encode the body -/
theorem compressBody_cases (c : Codecs) (k : Kind) (level : Int) (r : Resp) :
    compressBody c k level r = r ∨
    (r.ce = [] ∧ (compressBody c k level r).ce = k.name ∧ (compressBody c k level r).vary = addVary r.vary ∧
      (compressBody c k level r).body = encBody c k level r.body) := by
  unfold compressBody
  split
  · exact Or.inl rfl
  · next h1 =>
    split
    · exact Or.inl rfl
    · have hce : r.ce = [] := by simpa using h1
      cases r.body with
      | stream reads => exact Or.inr ⟨hce, rfl, rfl, rfl⟩
      | buf b | raw b =>
        dsimp only
        split
        · exact Or.inl rfl
        · exact Or.inr ⟨hce, rfl, rfl, rfl⟩

theorem compressBody_of_ce_ne (c : Codecs) (k : Kind) (level : Int) (r : Resp) (hce : r.ce ≠ []) :
    compressBody c k level r = r :=
  (compressBody_cases c k level r).resolve_right fun h => hce h.1

theorem kindOfName_name (k : Kind) : kindOfName k.name = some k := by cases k <;> decide
theorem kindOfName_nil : kindOfName [] = none := by decide +kernel

theorem compressBody_transparent (c : Codecs) (k : Kind) (level : Int) (h : Resp) :
    decodeResp c (compressBody c k level h) = decodeResp c h := by
  rcases compressBody_cases c k level h with he | ⟨hce, hk, _, hb⟩
  · rw [he]
  · rw [decodeResp, decodeResp, hk, kindOfName_name, hce, kindOfName_nil, hb]
    exact dec_encBody c k level h.body

theorem pickKind_accepts {order : List String} {ae : Bytes} {k : Kind} (h : pickKind order ae = some k) :
    hasAcceptEncoding ae k.name = true := by
  unfold pickKind at h
  split at h <;> cases h
  next hf => exact (find?_some hf :)

/-- the output of either handler wrapper is the handler's response or that of one body compressor, for a coding the
    request accepts -/
theorem handler_cases (c : Codecs) (bl ol : Int) (ae : Bytes) (r out : Resp)
    (hout : out = compressHandlerLevel c ol ae r ∨ out = compressHandlerBrotliLevel c bl ol ae r) :
    out = r ∨ ∃ k lvl, hasAcceptEncoding ae k.name = true ∧ out = compressBody c k lvl r := by
  rcases hout with rfl | rfl
  · unfold compressHandlerLevel
    split
    · rename_i k hp; exact Or.inr ⟨k, ol, pickKind_accepts hp, rfl⟩
    · exact Or.inl rfl
  · unfold compressHandlerBrotliLevel
    split
    · rename_i hp; exact Or.inr ⟨.br, bl, pickKind_accepts hp, rfl⟩
    · rename_i k _ hp; exact Or.inr ⟨k, ol, pickKind_accepts hp, rfl⟩
    · exact Or.inl rfl

section
variable (c : Codecs) (bl ol : Int) (ae : Bytes) (r out : Resp)
  (hout : out = compressHandlerLevel c ol ae r ∨ out = compressHandlerBrotliLevel c bl ol ae r)
include hout

theorem handler_transparent : decodeResp c out = decodeResp c r := by
  rcases handler_cases c bl ol ae r out hout with rfl | ⟨k, lvl, _, rfl⟩
  · rfl
  · exact compressBody_transparent c k lvl r

theorem handler_of_ce_ne (hce : r.ce ≠ []) : out = r := by
  rcases handler_cases c bl ol ae r out hout with he | ⟨k, lvl, _, rfl⟩
  · exact he
  · exact compressBody_of_ce_ne c k lvl r hce

/-- a wrapper that changed the Content-Encoding set it to a coding the request accepts and extended Vary -/
theorem handler_changed (hne : out.ce ≠ r.ce) :
    ∃ k : Kind, hasAcceptEncoding ae k.name = true ∧ out.ce = k.name ∧ out.vary = addVary r.vary := by
  rcases handler_cases c bl ol ae r out hout with rfl | ⟨k, lvl, hacc, rfl⟩
  · exact absurd rfl hne
  · rcases compressBody_cases c k lvl r with he | ⟨_, hk, hv, _⟩
    · exact absurd (congrArg Resp.ce he) hne
    · exact ⟨k, hacc, hk, hv⟩

end

/-- the Reads that come without an error are all copied; the first Read with one decides the rest -/
theorem copyBuffer_none_append (pre : List Bytes) (rest : List (Bytes × RdErr)) :
    copyBuffer (pre.map (fun d => (d, RdErr.none)) ++ rest) = (pre.flatten ++ (copyBuffer rest).1, (copyBuffer rest).2) := by
  induction pre with
  | nil => rfl
  | cons d t ih => rw [map_cons, cons_append, copyBuffer, ih, flatten_cons, append_assoc]

theorem splitFirst_eq (pat : Bytes) (s pre post : Bytes) (h : splitFirst pat s = some (pre, post)) :
    s = pre ++ pat ++ post := by
  induction s generalizing pre post with
  | nil =>
    obtain ⟨he, h⟩ := of_guard h
    cases h
    rw [isEmpty_iff.mp he]; rfl
  | cons c t ih =>
    rcases of_ite h with ⟨hp, h⟩ | ⟨_, h⟩
    · cases h
      exact (prefix_iff_eq_append.mp (isPrefixOf_iff_prefix.mp hp)).symm
    · obtain ⟨r, hr, h⟩ := Option.map_eq_some_iff.mp h
      cases h
      rw [ih r.1 r.2 hr]; rfl

theorem splitComma_ne_nil (s : Bytes) : splitComma s ≠ [] := by
  cases s with
  | nil => exact cons_ne_nil _ _
  | cons c t =>
    rw [splitComma]
    split
    · exact cons_ne_nil _ _
    · split <;> exact cons_ne_nil _ _

/-- a comma separates the elements before it from those after it -/
theorem splitComma_append_comma (v w : Bytes) : splitComma (v ++ 44 :: w) = splitComma v ++ splitComma w := by
  induction v with
  | nil => rfl
  | cons c t ih =>
    rw [cons_append, splitComma, splitComma, ih]
    split
    · rfl
    · cases hs : splitComma t with
      | nil => exact absurd hs (splitComma_ne_nil t)
      | cons s r => rfl

theorem addVary_has_member (v : Bytes) : listHasMember (addVary v) Gen.strAcceptEncoding = true := by
  unfold addVary
  split
  · decide
  · split
    · assumption
    · rw [append_assoc, listHasMember, singleton_append, splitComma_append_comma, any_append, Bool.or_eq_true]
      exact Or.inr (by decide)

/-- cut at the last comma: the list element a search hit lies in (`C22.hasAcceptEncoding_meaning`) starts there -/
theorem split_last_comma (pre : Bytes) :
    ∃ l w, pre = l ++ w ∧ (l = [] ∨ l.getLast? = some 44) ∧ (44 : UInt8) ∉ w := by
  induction pre with
  | nil => exact ⟨[], [], rfl, Or.inl rfl, not_mem_nil⟩
  | cons c t ih =>
    obtain ⟨l, w, rfl, hl, hw⟩ := ih
    cases l with
    | nil =>
      by_cases hc : c = 44
      · exact ⟨[c], w, rfl, Or.inr (hc ▸ rfl), hw⟩
      · exact ⟨[], c :: w, rfl, Or.inl rfl, fun hm => (mem_cons.mp hm).elim (fun e => hc e.symm) hw⟩
    | cons d l =>
      exact ⟨c :: d :: l, w, rfl, Or.inr (hl.resolve_left (cons_ne_nil _ _)), hw⟩

end Fh.Proofs.CompressC22
