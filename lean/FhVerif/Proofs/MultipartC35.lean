/-
Invariant of the temp-file life cycle (C35): a file on disk belongs to a timed-out request or to the live form of the
current request.  Every event is a composition of five moves that keep it — a move to another phase (`setPhase`),
RemoveMultipartFormFiles on the live Request (`remove`), files removed (`filterFiles`), files created for the
current request (`addFiles`), the next request (`nextReq`).  Core Lean only.
-/
import FhVerif.Model.MultipartC35
import FhVerif.Base.Run

namespace Fh.Proofs.MultipartC35
open Fh Fh.Model.C35

/-- the phases in which the live Request has no form: between requests, after release, after close, and after a
    timeout (the Request with the form is no longer the server's) -/
def formless : Phase → Bool
  | .idle | .released | .closed | .handlerTO => true
  | _ => false

structure MInv (s : MSt) : Prop where
  /-- every file on disk belongs to a timed-out request or to the live form of the CURRENT request -/
  owned : ∀ f, f ∈ s.files → f ∈ s.detached ∨ (s.form = true ∧ f = s.reqNum)
  noForm : formless s.phase = true → s.form = false
  toDetached : s.phase = .handlerTO → s.reqNum ∈ s.detached

theorem minv_init : MInv {} := ⟨nofun, fun _ => rfl, nofun⟩

theorem MInv.liveFiles_owned {s : MSt} (h : MInv s) : ∀ f ∈ liveFiles s, s.form = true ∧ f = s.reqNum :=
  fun f hf => (h.owned f (List.mem_filter.mp hf).1).resolve_left (of_decide_eq_true (List.mem_filter.mp hf).2)

theorem MInv.liveFiles_nil {s : MSt} (h : MInv s) (hp : formless s.phase = true) : liveFiles s = [] :=
  List.eq_nil_iff_forall_not_mem.mpr fun f hf =>
    Bool.false_ne_true ((h.noForm hp).symm.trans (h.liveFiles_owned f hf).1)

theorem MInv.setPhase {s : MSt} (h : MInv s) (p : Phase) (hp : formless p = true → s.form = false ∧ p ≠ .handlerTO) :
    MInv { s with phase := p } :=
  ⟨h.owned, fun hc => (hp hc).1, fun (hc : p = .handlerTO) => absurd hc (hp (hc ▸ rfl)).2⟩

theorem removeLive_form (s : MSt) : (removeLive s).form = false := by
  unfold removeLive
  split
  · rfl
  · next hf => exact Bool.eq_false_iff.mpr hf

theorem MInv.remove {s : MSt} (h : MInv s) : MInv (removeLive s) := by
  unfold removeLive
  split
  · refine ⟨fun f hfm => Or.inl ?_, fun _ => rfl, h.toDetached⟩
    have ⟨hm, hne⟩ := List.mem_filter.mp hfm
    exact (h.owned f hm).resolve_right fun hc => of_decide_eq_true hne hc.2
  · exact h

theorem MInv.removeLive_to {s : MSt} (h : MInv s) (p : Phase) (hp : p ≠ .handlerTO := by decide) :
    MInv { removeLive s with phase := p } :=
  h.remove.setPhase p fun _ => ⟨removeLive_form s, hp⟩

theorem MInv.filterFiles {s : MSt} (h : MInv s) (q : Nat → Bool) : MInv { s with files := s.files.filter q } :=
  ⟨fun f hf => h.owned f (List.mem_filter.mp hf).1, h.noForm, h.toDetached⟩

/-- a parse creates files for the current request, whose form is live or which has timed out -/
theorem MInv.addFiles {s : MSt} (h : MInv s) (n : Nat) (form : Bool)
    (hown : form = true ∨ (form = s.form ∧ s.reqNum ∈ s.detached)) (hph : formless s.phase = true → form = false) :
    MInv { s with form := form, files := s.files ++ List.replicate n s.reqNum } := by
  refine ⟨fun f hf => ?_, hph, h.toDetached⟩
  rcases List.mem_append.mp hf with hf | hf
  · exact (h.owned f hf).imp_right fun hc => ⟨hown.elim id fun hform => hform.1.trans hc.1, hc.2⟩
  · cases (List.mem_replicate.mp hf).2
    exact hown.symm.imp (fun hc => hc.2) fun hc => ⟨hc, rfl⟩

/-- the next request is read: nothing on disk is its own yet -/
theorem MInv.nextReq {s : MSt} (h : MInv s) (hp : s.phase = .idle) : MInv { s with reqNum := s.reqNum + 1 } :=
  have hf := h.noForm (hp ▸ rfl)
  ⟨fun f hm => Or.inl ((h.owned f hm).resolve_right fun hc => Bool.false_ne_true (hf.symm.trans hc.1)), fun _ => hf,
    fun hc => nomatch hp.symm.trans hc⟩

theorem mstep_inv {s s' : MSt} {e : MEv} (h : MInv s) (hs : mstep s e = some s') : MInv s' := by
  cases e with
  | readOk pre n =>
    obtain ⟨hp, rfl⟩ := of_guard hs
    have h1 := (h.nextReq hp).setPhase .ready nofun
    cases pre
    · rw [h.noForm (hp ▸ rfl)] at h1; exact h1
    · exact h1.addFiles n true (Or.inl rfl) nofun
  | readErr =>
    obtain ⟨hp, rfl⟩ := of_guard hs
    exact (h.nextReq hp).removeLive_to .leaving
  | readDrainFail n e =>
    obtain ⟨hp, rfl⟩ := of_guard hs
    -- readMultipartForm had the form with its files, and removed them
    rw [h.noForm (hp ▸ rfl)]
    exact (((h.nextReq hp).setPhase .leaving nofun).addFiles n true (Or.inl rfl) nofun).remove
  | eof | dispatch | handlerRet | writeErr =>
    obtain ⟨_, rfl⟩ := of_guard hs
    exact h.setPhase _ nofun
  | parse n =>
    rcases of_ite hs with ⟨hp, hs⟩ | ⟨_, hs⟩
    · rcases of_ite hs with ⟨_, hs⟩ | ⟨_, hs⟩ <;> cases hs
      · exact h
      · exact h.addFiles n true (Or.inl rfl) (fun hc => nomatch hp ▸ hc)
    · obtain ⟨hp, rfl⟩ := of_guard hs
      exact h.addFiles n s.form (Or.inr ⟨rfl, h.toDetached hp⟩) h.noForm
  | parseErr =>
    obtain ⟨_, rfl⟩ := of_guard hs
    exact h
  | parseTooLarge n =>
    rcases of_ite hs with ⟨hp, hs⟩ | ⟨_, hs⟩
    · rcases of_ite hs with ⟨_, hs⟩ | ⟨_, hs⟩ <;> cases hs
      · exact h
      · exact (h.addFiles n true (Or.inl rfl) (fun hc => nomatch hp ▸ hc)).remove
    · obtain ⟨_, rfl⟩ := of_guard hs
      exact h
  | removeFiles | resetBody =>
    rcases of_ite hs with ⟨_, hs⟩ | ⟨_, hs⟩
    · cases hs
      exact h.remove
    · obtain ⟨_, rfl⟩ := of_guard hs
      exact h.filterFiles _
  | timeout =>
    obtain ⟨_, rfl⟩ := of_guard hs
    -- the current request joins the timed-out ones, with whatever its form had on disk
    refine ⟨fun f hfm => Or.inl ?_, fun _ => rfl, fun _ => List.mem_cons_self⟩
    exact (h.owned f hfm).elim (List.mem_cons_of_mem _) fun hc => hc.2 ▸ List.mem_cons_self
  | writeOk ka =>
    obtain ⟨_, rfl⟩ := of_guard hs
    cases ka <;> exact h.setPhase _ nofun
  | loopReset | release =>
    obtain ⟨_, rfl⟩ := of_guard hs
    exact h.removeLive_to _
  | close =>
    obtain ⟨hp, rfl⟩ := of_guard hs
    exact h.setPhase .closed fun _ => ⟨h.noForm (hp ▸ rfl), nofun⟩

theorem mrun_eq_iter (s : MSt) (evs : List MEv) : mrun s evs = iter mstep s evs := by
  induction evs generalizing s with
  | nil => rfl
  | cons e es ih =>
    rw [mrun, Iter.iter_cons]
    cases mstep s e with
    | none => rfl
    | some s1 => exact ih s1

theorem mrun_inv {evs : List MEv} {s s' : MSt} (h : MInv s) (hr : mrun s evs = some s') : MInv s' :=
  Iter.inv (fun _ _ _ => mstep_inv) h (mrun_eq_iter s evs ▸ hr)

end Fh.Proofs.MultipartC35
