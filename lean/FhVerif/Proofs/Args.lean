/-
Helper lemmas for C28 (percent coding round trip, serialise/parse round trip).  Core Lean only.
-/
import FhVerif.Model.Args
import FhVerif.Spec.Multimap
import FhVerif.Props.C32

namespace Fh.Proofs.Args
open Fh Fh.Model Fh.Proofs.ByteClass Fh.Props

theorem decodeArg_nil : decodeArg [] = [] := by simp [decodeArg]

theorem decodeArg_plus (rest : Bytes) : decodeArg (43 :: rest) = 32 :: decodeArg rest := by
  simp [decodeArg]

theorem decodeArg_pct (c1 c2 : UInt8) (rest : Bytes) :
    decodeArg (37 :: c1 :: c2 :: rest) =
      if hex2int c1 == 16 || hex2int c2 == 16 then 37 :: decodeArg (c1 :: c2 :: rest)
      else (hex2int c1 <<< 4 ||| hex2int c2) :: decodeArg rest := by
  rw [decodeArg]

theorem decodeArg_other (c : UInt8) (rest : Bytes) (h1 : c ≠ 37) (h2 : c ≠ 43) :
    decodeArg (c :: rest) = c :: decodeArg rest :=
  decodeArg.eq_6 c rest (fun _ _ _ h _ => h1 h) (fun _ h _ => h1 h) (fun h _ => h1 h) h2

/-- `upperHexDigit` writes a nibble as a hex digit (never `&` or `=`) that `hex2int` reads back. -/
theorem hex2int_upperHexDigit : ∀ d : UInt8, d < 16 →
    hex2int (upperHexDigit d) = d ∧ upperHexDigit d ≠ 38 ∧ upperHexDigit d ≠ 61 := by
  simp only [C32.hex2int_ofNat]
  exact forall_byte (by decide +kernel)

theorem nibbles : ∀ c : UInt8, c >>> 4 < 16 ∧ c &&& 15 < 16 ∧ (c >>> 4) <<< 4 ||| (c &&& 15) = c :=
  forall_byte (by decide +kernel)

/-- The two hex digits written for a byte are hex digits and read back as that byte. -/
theorem hex_pair (c : UInt8) :
    hex2int (upperHexDigit (c >>> 4)) ≠ 16 ∧ hex2int (upperHexDigit (c &&& 15)) ≠ 16 ∧
    (hex2int (upperHexDigit (c >>> 4)) <<< 4 ||| hex2int (upperHexDigit (c &&& 15))) = c := by
  obtain ⟨hhi, hlo, hc⟩ := nibbles c
  rw [(hex2int_upperHexDigit _ hhi).1, (hex2int_upperHexDigit _ hlo).1]
  exact ⟨UInt8.ne_of_lt hhi, UInt8.ne_of_lt hlo, hc⟩

/-- A byte that AppendQuotedArg copies is unreserved, so none of `%` `+` `&` `=`. -/
theorem unescaped_arg {c : UInt8} (h : quotedArgShouldEscape c = false) : (c ≠ 37 ∧ c ≠ 43) ∧ c ≠ 38 ∧ c ≠ 61 := by
  rw [C32.quotedArg_eq] at h
  simp [Spec.argShouldEscape, Spec.unreserved, Spec.isAlpha, Spec.isUpper, Spec.isLower, Spec.isDigit] at h
  simp only [ne_eq, ← UInt8.toNat_inj, UInt8.toNat_ofNat]
  omega

/-- What AppendQuotedArg writes for a byte decodes to that byte and holds neither `&` nor `=`. -/
theorem quoteArgByte_spec (c : UInt8) :
    (∀ rest, decodeArg (quoteArgByte c ++ rest) = c :: decodeArg rest) ∧ ∀ x ∈ quoteArgByte c, x ≠ 38 ∧ x ≠ 61 := by
  unfold quoteArgByte
  by_cases h32 : c = 32
  · subst h32; exact ⟨decodeArg_plus, by decide⟩
  rw [if_neg (by simpa using h32)]
  cases he : quotedArgShouldEscape c
  · have hc := unescaped_arg he
    exact ⟨fun rest => decodeArg_other c rest hc.1.1 hc.1.2, fun x hx => List.mem_singleton.1 hx ▸ hc.2⟩
  · obtain ⟨hhi, hlo, hc⟩ := hex_pair c
    obtain ⟨nhi, nlo, _⟩ := nibbles c
    rw [if_pos rfl]
    refine ⟨fun rest => ?_, ?_⟩
    · rw [List.cons_append, List.cons_append, List.cons_append, List.nil_append, decodeArg_pct,
        beq_false_of_ne hhi, beq_false_of_ne hlo, Bool.or_false, if_neg Bool.false_ne_true, hc]
    · simp only [List.forall_mem_cons]
      exact ⟨by decide, (hex2int_upperHexDigit _ nhi).2, (hex2int_upperHexDigit _ nlo).2, nofun⟩

theorem decode_quote_append (s rest : Bytes) : decodeArg (appendQuotedArg s ++ rest) = s ++ decodeArg rest := by
  induction s with
  | nil => rfl
  | cons c t ih =>
    simp only [appendQuotedArg, List.flatMap_cons, List.append_assoc] at ih ⊢
    rw [(quoteArgByte_spec c).1, ih]; rfl

theorem decode_quote (s : Bytes) : decodeArg (appendQuotedArg s) = s := by
  simpa [decodeArg_nil] using decode_quote_append s []

theorem quote_no_sep (s : Bytes) : ∀ x ∈ appendQuotedArg s, x ≠ 38 ∧ x ≠ 61 := fun x hx =>
  have ⟨c, _, hc⟩ := List.mem_flatMap.1 hx
  (quoteArgByte_spec c).2 x hc

/-- `parseEntry` splits at the first `=`, if there is one. -/
theorem parseEntry_append (k s : Bytes) (hk : ∀ c ∈ k, c ≠ 61) :
    parseEntry (k ++ s) = match s.dropWhile (· != 61) with
      | [] => ⟨decodeArg (k ++ s.takeWhile (· != 61)), none⟩
      | _ :: v => ⟨decodeArg (k ++ s.takeWhile (· != 61)), some (decodeArg v)⟩ := by
  have hk' : ∀ c ∈ k, (c != 61) = true := fun c hc => bne_iff_ne.2 (hk c hc)
  rw [parseEntry, List.takeWhile_append_of_pos hk', List.dropWhile_append_of_pos hk']; rfl

theorem parseEntry_enc (e : KV) : parseEntry (encEntry e) = e := by
  have hk := fun c hc => (quote_no_sep e.key c hc).2
  obtain ⟨k, _ | v⟩ := e
  · simpa [encEntry, decode_quote] using parseEntry_append (appendQuotedArg k) [] hk
  · simpa [encEntry, decode_quote] using parseEntry_append (appendQuotedArg k) (61 :: appendQuotedArg v) hk

theorem splitAmp_ne_nil (b : Bytes) : splitAmp b ≠ [] := by
  induction b with
  | nil => simp [splitAmp]
  | cons c t ih =>
    simp only [splitAmp]
    split
    · simp
    · split <;> simp

/-- A stretch without `&` in front of the input joins the first piece. -/
theorem splitAmp_append (x rest : Bytes) (h : ∀ c ∈ x, c ≠ 38) {s : Bytes} {r : List Bytes}
    (hs : splitAmp rest = s :: r) : splitAmp (x ++ rest) = (x ++ s) :: r := by
  induction x with
  | nil => exact hs
  | cons c t ih =>
    rw [List.forall_mem_cons] at h
    rw [List.cons_append, splitAmp, if_neg (by simpa using h.1), ih h.2]; rfl

theorem splitAmp_join (xs : List Bytes) (hne : xs ≠ []) (h : ∀ x ∈ xs, ∀ c ∈ x, c ≠ 38) :
    splitAmp (joinAmp xs) = xs := by
  induction xs with
  | nil => exact absurd rfl hne
  | cons x rest ih =>
    rw [List.forall_mem_cons] at h
    cases rest with
    | nil => simpa [joinAmp] using splitAmp_append x [] h.1 rfl
    | cons y ys =>
      simp only [joinAmp]
      rw [splitAmp_append x _ h.1 rfl, ih (List.cons_ne_nil _ _) h.2, List.append_nil]

theorem encEntry_no_amp (e : KV) : ∀ c ∈ encEntry e, c ≠ 38 := by
  obtain ⟨k, _ | v⟩ := e
  · exact fun c hc => (quote_no_sep k c hc).1
  · simp only [encEntry, List.forall_mem_append, List.forall_mem_cons]
    exact ⟨fun c hc => (quote_no_sep k c hc).1, by decide, fun c hc => (quote_no_sep v c hc).1⟩

end Fh.Proofs.Args
