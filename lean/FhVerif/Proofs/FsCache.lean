/-
Invariant of the file-handle bookkeeping model (C25) and its preservation by every event.  The invariant is per object
(`J`); the few ways in which an event changes one object are the rules of `Touch`, each of which keeps `J` and needs
the object to be held or referenced, so that a released object is final.
-/
import FhVerif.Model.FsCache
import FhVerif.Base.Run

namespace Fh.Proofs.FsCache
open Fh Fh.Model

/-- per-object invariant; `c` = the manager's `closed` flag -/
structure J (c : Bool) (o : Obj) : Prop where
  rel_le : o.released ≤ 1
  rel_idle : o.released = 1 → o.readers = 0 ∧ o.loc = .detached
  out_le : o.out ≤ o.readers
  fresh_idle : o.loc = .fresh → o.readers = 0
  closed_nocache : c = true → ∀ k p, o.loc ≠ .cached k p
  closed_pending : c = true → o.loc = .pending → 0 < o.readers
  detached_live : o.loc = .detached → o.released = 0 → c = true ∧ 0 < o.readers
  handles_live : o.released = 0 → o.hOpened = o.hClosed + o.pool + (if o.big then o.out else 0)
  handles_done : o.released = 1 → o.hOpened = o.hClosed

theorem J.held {c : Bool} {o : Obj} (h : J c o) (hl : o.loc ≠ .detached) : o.released = 0 :=
  Nat.eq_zero_of_le_zero (Nat.le_of_lt_succ (Nat.lt_of_le_of_ne h.rel_le fun h1 => hl (h.rel_idle h1).2))

theorem J.live {c : Bool} {o : Obj} (h : J c o) (hr : 0 < o.readers) : o.released = 0 :=
  Nat.eq_zero_of_le_zero (Nat.le_of_lt_succ (Nat.lt_of_le_of_ne h.rel_le fun h1 => Nat.ne_of_gt hr (h.rel_idle h1).1))

theorem J.of_live {c : Bool} {o : Obj} (h0 : o.released = 0) (out_le : o.out ≤ o.readers)
    (fresh_idle : o.loc = .fresh → o.readers = 0) (closed_nocache : c = true → ∀ k p, o.loc ≠ .cached k p)
    (closed_pending : c = true → o.loc = .pending → 0 < o.readers)
    (detached_live : o.loc = .detached → c = true ∧ 0 < o.readers)
    (handles : o.hOpened = o.hClosed + o.pool + (if o.big then o.out else 0)) : J c o :=
  ⟨by omega, fun h1 => by omega, out_le, fresh_idle, closed_nocache, closed_pending, fun hd _ => detached_live hd,
    fun _ => handles, fun h1 => by omega⟩

theorem J_new (c big : Bool) : J c { loc := .fresh, big := big } :=
  .of_live rfl (Nat.le_refl 0) (fun _ => rfl) nofun nofun nofun (by cases big <;> rfl)

theorem J_release (c : Bool) (o : Obj) (hr : o.readers = 0) (h0 : o.released = 0) (hout : o.out = 0)
    (hh : o.hOpened = o.hClosed + o.pool + (if o.big then o.out else 0)) : J c { rel o with loc := .detached } := by
  rw [hout, ite_self] at hh
  exact ⟨Nat.le_of_eq (congrArg (· + 1) h0), fun _ => ⟨hr, rfl⟩, Nat.le_trans (Nat.le_of_eq hout) (Nat.zero_le _),
    fun _ => hr, nofun, nofun, nofun, nofun, fun _ => hh⟩

theorem J.release {c : Bool} {o : Obj} (h : J c o) (c' : Bool) (hr : o.readers = 0) (h0 : o.released = 0) :
    J c' { rel o with loc := .detached } :=
  J_release c' o hr h0 (by have := h.out_le; omega) (h.handles_live h0)

theorem J_decObj (c : Bool) (o : Obj) (h : J c o) (hlt : o.out < o.readers) : J c (decObj c o) := by
  have h0 : o.released = 0 := h.live (by omega)
  have hnf : o.loc ≠ .fresh := fun hf => by have := h.fresh_idle hf; omega
  unfold decObj
  by_cases hc : (c && (o.readers - 1 == 0)) = true
  · -- the last reference on a closed manager: the object is released wherever it was
    rw [if_pos hc]
    rw [Bool.and_eq_true, beq_iff_eq] at hc
    have hloc : (if o.loc = Loc.pending then Loc.detached else o.loc) = .detached := by
      cases hl : o.loc with
      | fresh => exact absurd hl hnf
      | cached k p => exact absurd hl (h.closed_nocache hc.1 k p)
      | pending => rfl
      | detached => rfl
    rw [hloc]
    exact J_release c { o with readers := o.readers - 1 } hc.2 h0 (by show o.out = 0; omega) (h.handles_live h0)
  · rw [if_neg hc]
    have hne : c = true → o.readers - 1 ≠ 0 := fun h1 h2 => hc (by rw [h1, h2]; rfl)
    exact .of_live h0 (Nat.le_sub_one_of_lt hlt) (fun hf => absurd hf hnf) h.closed_nocache
      (fun h1 _ => Nat.pos_of_ne_zero (hne h1))
      (fun hd => have hc1 := (h.detached_live hd h0).1; ⟨hc1, Nat.pos_of_ne_zero (hne hc1)⟩) (h.handles_live h0)

theorem J_evict (c c' : Bool) (o : Obj) (h : J c o) (hl : o.loc ≠ .detached) : J c' (evict o) := by
  have h0 : o.released = 0 := h.held hl
  unfold evict
  by_cases hr : o.readers > 0
  · rw [if_pos hr]
    exact .of_live h0 h.out_le nofun nofun (fun _ _ => hr) nofun
      (h.handles_live h0)
  · rw [if_neg hr]
    exact h.release c' (by omega) h0

theorem findCached_some (s : St) (k : Nat) (p : Bytes) (j : Nat) (o : Obj)
    (hf : findCached s k p = some j) (ho : s.objs[j]? = some o) : o.loc = .cached k p := by
  obtain ⟨hlt, hp, _⟩ := List.findIdx?_eq_some_iff_getElem.1 hf
  rw [(List.getElem?_eq_some_iff.1 ho).2] at hp
  exact eq_of_beq hp

def closedAfter (s : St) (e : Ev) : Bool := if e = .close then true else s.closed

/-- What an enabled event can do to an object; `c`, `c'` = the manager's `closed` flag before and after. -/
inductive Touch (c : Bool) (o : Obj) : Bool → Obj → Prop
  | same : Touch c o c o
  /-- `close` passes by what the manager does not hold -/
  | flip : o.loc ≠ .pending → (∀ k p, o.loc ≠ .cached k p) → Touch c o true o
  /-- an idle object leaves every manager structure and is released: error exit, lost SetFileToCache race, cleaner -/
  | release : o.readers = 0 → o.loc ≠ .detached → Touch c o c { rel o with loc := .detached }
  /-- a reference is taken and the object moves to `l`.  Cache hit: `l` is where it is; SetFileToCache of a fresh file:
      a cache slot, or (closed manager) `detached`, owned by its first reader only -/
  | ref (l : Loc) : o.loc ≠ .detached → l ≠ .fresh → (l = .detached → c = true) →
      (∀ k p, l = .cached k p → c = false) → Touch c o c { o with readers := o.readers + 1, loc := l }
  /-- a reader is created, or closed (before its DecReadersCount): `out` and the private-handle counters move in balance -/
  | reader (out pool hO hC : Nat) : 0 < o.readers → out ≤ o.readers →
      (o.hOpened = o.hClosed + o.pool + (if o.big then o.out else 0) → hO = hC + pool + (if o.big then out else 0)) →
      Touch c o c { o with out := out, pool := pool, hOpened := hO, hClosed := hC }
  /-- DecReadersCount, on its own or at the end of a reader's Close -/
  | thenDec (o' : Obj) : Touch c o c o' → o'.out < o'.readers → Touch c o c (decObj c o')
  /-- addFileToReleaseNolock: cleanCache drops an expired entry, `close` everything the manager holds -/
  | evict : o.loc ≠ .detached → Touch c o c' (evict o)

theorem Touch.inv {c c' : Bool} {o o' : Obj} (t : Touch c o c' o') (h : J c o) : J c' o' := by
  induction t with
  | same => exact h
  | flip h1 h2 =>
    exact ⟨h.rel_le, h.rel_idle, h.out_le, h.fresh_idle, fun _ => h2, fun _ hp => absurd hp h1,
      fun hd hr => ⟨rfl, (h.detached_live hd hr).2⟩, h.handles_live, h.handles_done⟩
  | release hr hl => exact h.release c hr (h.held hl)
  | ref l hl hf hd hk =>
    have h0 := h.held hl
    exact .of_live h0 (Nat.le_succ_of_le h.out_le) (fun h1 => absurd h1 hf)
      (fun hc k p h1 => Bool.noConfusion ((hk k p h1).symm.trans hc)) (fun _ _ => Nat.succ_pos _)
      (fun h1 => ⟨hd h1, Nat.succ_pos _⟩) (h.handles_live h0)
  | reader out pool hO hC hr hout hh =>
    have h0 := h.live hr
    exact .of_live h0 hout h.fresh_idle h.closed_nocache (fun _ _ => hr)
      (fun hd => ⟨(h.detached_live hd h0).1, hr⟩) (hh (h.handles_live h0))
  | thenDec o' _ hlt ih => exact J_decObj c o' ih hlt
  | evict hl => exact J_evict c _ o h hl

theorem Touch.live {c c' : Bool} {o o' : Obj} (t : Touch c o c' o') :
    o' = o ∨ o.loc ≠ .detached ∨ 0 < o.readers := by
  induction t with
  | same => exact Or.inl rfl
  | flip => exact Or.inl rfl
  | release _ hl => exact Or.inr (Or.inl hl)
  | ref l hl => exact Or.inr (Or.inl hl)
  | reader _ _ _ _ hr => exact Or.inr (Or.inr hr)
  | thenDec o' _ hlt ih =>
    rcases ih with rfl | ih
    · exact Or.inr (Or.inr (Nat.zero_lt_of_lt hlt))
    · exact Or.inr ih
  | evict hl => exact Or.inr (Or.inl hl)

theorem enabled_obj {s : St} {e : Ev} {i : Nat} {o : Obj} (hi : s.objs[i]? = some o) (hen : enabled s e = true) :
    (e = .fail i ∨ (∃ k p, e = .set k p i) → o.loc = .fresh) ∧
    (e = .dec i ∨ e = .readerNew i → o.out < o.readers) ∧
    (∀ ok, e = .readerClose i ok → 0 < o.out ∧ 0 < o.readers) := by
  refine ⟨?_, ?_, ?_⟩
  · rintro (rfl | ⟨k, p, rfl⟩) <;> (rw [enabled, hi] at hen; exact eq_of_beq hen)
  · rintro (rfl | rfl) <;> (rw [enabled, hi] at hen; exact of_decide_eq_true hen)
  · rintro ok rfl
    rw [enabled, hi, Bool.and_eq_true, decide_eq_true_eq, decide_eq_true_eq] at hen
    exact hen

theorem Touch.hit {c : Bool} {o : Obj} {k : Nat} {p : Bytes} (hc : c = false) (hl : o.loc = .cached k p) :
    Touch c o c { o with readers := o.readers + 1 } :=
  .ref _ (hl ▸ nofun) (hl ▸ nofun) (hl ▸ nofun) fun _ _ _ => hc

theorem Touch.ite {c c' : Bool} {o x y : Obj} {p : Prop} [Decidable p] (hx : p → Touch c o c' x)
    (hy : ¬p → Touch c o c' y) : Touch c o c' (if p then x else y) := by
  split
  · exact hx ‹p›
  · exact hy ‹¬p›

theorem tr_touch (s : St) (e : Ev) (j : Nat) (o : Obj) (hj : s.objs[j]? = some o) (h : J s.closed o)
    (hen : enabled s e = true) : Touch s.closed o (closedAfter s e) (tr s e j o) := by
  have hob := enabled_obj hj hen
  cases e with
  | open_ b => exact .same
  | read i => exact .same
  | fail i =>
    refine .ite (fun hji => ?_) fun _ => .same
    have hf := hob.1 (Or.inl (hji ▸ rfl))
    exact .release (h.fresh_idle hf) (hf ▸ nofun)
  | get k p =>
    refine .ite (fun _ => .same) fun hc => .ite (fun hf => ?_) fun _ => .same
    exact .hit (eq_false_of_ne_true hc) (findCached_some s k p j o hf hj)
  | set k p i =>
    have hfresh : j = i → o.loc = .fresh := fun hji => hob.1 (Or.inr ⟨k, p, hji ▸ rfl⟩)
    refine .ite (fun hc => ?_) fun hc => ?_
    · exact .ite (fun hji => .ref .detached (hfresh hji ▸ nofun) nofun (fun _ => hc) nofun) fun _ => .same
    have hc' := eq_false_of_ne_true hc
    split
    next => exact .ite (fun hji => .ref (.cached k p) (hfresh hji ▸ nofun) nofun nofun fun _ _ _ => hc') fun _ => .same
    next w hfc =>
      refine .ite (fun hjw => .hit hc' (findCached_some s k p j o (hjw ▸ hfc) hj)) fun _ => ?_
      -- the race for the cache slot is lost: the file just opened is closed again
      exact .ite (fun hji => .release (h.fresh_idle (hfresh hji)) (hfresh hji ▸ nofun)) fun _ => .same
  | dec i => exact .ite (fun hji => .thenDec o .same (hob.2.1 (Or.inl (hji ▸ rfl)))) fun _ => .same
  | readerNew i =>
    refine .ite (fun hji => ?_) fun _ => .same
    have hlt := hob.2.1 (Or.inr (hji ▸ rfl))
    have hr : 0 < o.readers := Nat.zero_lt_of_lt hlt
    -- a small file shares ff.f; a big file takes a pooled handle or opens one
    refine .ite (fun hb => .ite (fun _ => ?_) fun _ => ?_) fun hb => ?_
    · exact .reader _ _ _ _ hr hlt fun hh => by simp only [if_pos hb] at hh ⊢; omega
    · exact .reader _ _ _ _ hr hlt fun hh => by simp only [if_pos hb] at hh ⊢; omega
    · exact .reader _ _ _ _ hr hlt fun hh => by simp only [if_neg hb] at hh ⊢; exact hh
  | readerClose i ok =>
    refine .ite (fun hji => ?_) fun _ => .same
    obtain ⟨hout, hr⟩ := hob.2.2 ok (hji ▸ rfl)
    have hle : o.out - 1 ≤ o.readers := Nat.le_trans (Nat.sub_le _ _) h.out_le
    have hlt : o.out - 1 < o.readers := Nat.lt_of_lt_of_le (Nat.sub_lt hout Nat.one_pos) h.out_le
    -- the reader's private handle goes back to the pool or is closed; then DecReadersCount
    split
    next hb =>
      split
      next =>
        exact .thenDec _ (.reader _ _ _ _ hr hle fun hh => by simp only [if_pos hb] at hh ⊢; omega) hlt
      next =>
        exact .thenDec _ (.reader _ _ _ _ hr hle fun hh => by simp only [if_pos hb] at hh ⊢; omega) hlt
    next hb =>
      exact .thenDec _ (.reader _ _ _ _ hr hle fun hh => by simp only [if_neg hb] at hh ⊢; omega) hlt
  | clean ex =>
    refine .ite (fun _ => .same) fun _ => ?_
    split
    next hl => exact .ite (fun _ => .same) fun hr => .release (Nat.eq_zero_of_not_pos hr) (hl ▸ nofun)
    next k p hl => exact .ite (fun _ => .evict (hl ▸ nofun)) fun _ => .same
    next => exact .same
  | close =>
    refine .ite (fun hc => ?_) fun _ => ?_
    · rw [closedAfter, if_pos rfl, ← hc]; exact .same
    · split
      next hl => exact .evict (hl ▸ nofun)
      next k p hl => exact .evict (hl ▸ nofun)
      next h1 h2 => exact .flip h1 h2

def Inv (s : St) : Prop := ∀ (j : Nat) (o : Obj), s.objs[j]? = some o → J s.closed o

theorem inv_init (c : Bool) : Inv (init c) := nofun

theorem step_shape (s s' : St) (e : Ev) (h : step s e = some s') :
    enabled s e = true ∧ s'.closed = closedAfter s e ∧
    ((∃ b, e = .open_ b ∧ s'.objs = s.objs ++ [{ loc := .fresh, big := b }]) ∨
     ((∀ b, e ≠ .open_ b) ∧ s'.objs = s.objs.mapIdx (tr s e))) := by
  unfold step at h
  by_cases hen : enabled s e = true
  · rw [if_pos hen] at h
    refine ⟨hen, ?_⟩
    cases e with
    | open_ b => cases h; exact ⟨rfl, Or.inl ⟨b, rfl, rfl⟩⟩
    | _ => cases h; exact ⟨rfl, Or.inr ⟨nofun, rfl⟩⟩
  · rw [if_neg hen] at h; cases h

theorem step_obj {s s' : St} {e : Ev} {i : Nat} {o : Obj} (h : step s e = some s') (ho : s.objs[i]? = some o) :
    s'.objs[i]? = some (tr s e i o) := by
  obtain ⟨_, _, ⟨b, rfl, hs⟩ | ⟨_, hs⟩⟩ := step_shape s s' e h
  · rw [hs, List.getElem?_append_left (List.getElem?_eq_some_iff.1 ho).1]
    exact ho
  · rw [hs, List.getElem?_mapIdx, ho]
    rfl

theorem inv_step (s s' : St) (e : Ev) (hi : Inv s) (h : step s e = some s') : Inv s' := by
  obtain ⟨hen, hc, hshape⟩ := step_shape s s' e h
  intro j o hj
  rw [hc]
  rcases hshape with ⟨b, he, ho⟩ | ⟨_, ho⟩
  · rw [ho, List.getElem?_append] at hj
    rw [closedAfter, if_neg (he ▸ nofun)]
    split at hj
    · exact hi j o hj
    · cases List.mem_singleton.mp (List.mem_of_getElem? hj)
      exact J_new _ _
  · rw [ho, List.getElem?_mapIdx] at hj
    cases hoj : s.objs[j]? with
    | none => rw [hoj] at hj; cases hj
    | some o0 =>
      rw [hoj] at hj
      cases hj
      exact (tr_touch s e j o0 hoj (hi j o0 hoj) hen).inv (hi j o0 hoj)

theorem run_eq_iter (s : St) (evs : List Ev) : run s evs = iter step s evs := by
  induction evs generalizing s with
  | nil => rfl
  | cons e es ih =>
    rw [run, Iter.iter_cons]
    cases step s e with
    | none => rfl
    | some s1 => exact ih s1

theorem inv_run (evs : List Ev) (s s' : St) (hi : Inv s) (h : run s evs = some s') : Inv s' :=
  Iter.inv (fun s e s' => inv_step s s' e) hi (run_eq_iter s evs ▸ h)

end Fh.Proofs.FsCache
