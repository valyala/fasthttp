/-
Helper lemmas for C31 (IPv4): the octet loop computes the decimal value and rejects exactly what exceeds 255;
splitting on '.'; AppendIPv4 output parses back.
-/
import FhVerif.Model.IPAddr
import FhVerif.Spec.IPAddr
import FhVerif.Proofs.IntCodec
import FhVerif.Props.C30

namespace Fh.Proofs.IPAddr
open Fh Fh.Model Fh.Spec Fh.Proofs.IntCodec

theorem decFrom_cons (v : Nat) (c : UInt8) (rest : Bytes) :
    decFrom v (c :: rest) = decFrom (10 * v + (c.toNat - 48)) rest := List.foldl_cons ..

theorem toOption_some {ε α : Type} (x : Except ε α) (v : α) (h : x.toOption = some v) : x = .ok v := by
  cases x with
  | error e => simp [Except.toOption] at h
  | ok a => simp [Except.toOption] at h; rw [h]

theorem digits_not_mem (b : Bytes) (h : b.all isDigitB = true) (c : UInt8) (hc : isDigitB c = false) : c ∉ b :=
  fun hm => by rw [List.all_eq_true.1 h c hm] at hc; cases hc

/-- the loop of parseIPv4Octet: succeeds exactly on digit strings whose value (continuing from `oct`) is ≤ 255 -/
theorem octetLoop_spec (rest : Bytes) (oct parsed : Nat) (first : Bool) : oct ≤ 255 →
    ((rest.all isDigitB = true ∧ decFrom oct rest ≤ 255) →
        (octetLoop oct parsed first rest).err = none ∧ (octetLoop oct parsed first rest).octet = decFrom oct rest) ∧
    (¬ (rest.all isDigitB = true ∧ decFrom oct rest ≤ 255) → (octetLoop oct parsed first rest).err ≠ none) := by
  fun_induction octetLoop oct parsed first rest with
  | case1 => simp [decFrom]
  | case2 oct parsed c t k hk | case3 oct parsed first c t k hk _ =>
    have hnd : isDigitB c = false := by
      have := (byte_digit c).1.1 hk
      simp [isDigitB]; omega
    simp [hnd]
  | case4 oct parsed first c t k hk parsed' hbig =>
    -- a digit that takes the value beyond 255
    intro hoct
    have hkv := (byte_digit c).2 (by have := (byte_digit c).1.2; omega)
    have hge := decFrom_ge (10 * oct + (c.toNat - 48)) t
    simp only [Bool.or_eq_true, Bool.and_eq_true, decide_eq_true_eq, beq_iff_eq] at hbig
    rw [decFrom_cons]
    exact ⟨fun h => by omega, fun _ => nofun⟩
  | case5 oct parsed first c t k hk parsed' hbig ih =>
    intro hoct
    have hdig : 48 ≤ c.toNat ∧ c.toNat ≤ 57 := by have := (byte_digit c).1.2; omega
    have hkv := (byte_digit c).2 hdig.1
    have hdb : isDigitB c = true := by simp [isDigitB]; omega
    simp only [Bool.or_eq_true, Bool.and_eq_true, decide_eq_true_eq, beq_iff_eq] at hbig
    rw [decFrom_cons, List.all_cons, hdb, Bool.true_and, show 10 * oct + (c.toNat - 48) = oct * 10 + k by omega]
    exact ih (by omega)

theorem octet_accept (f : Bytes) (h : isDecField f = true) :
    (parseIPv4Octet f).err = none ∧ (parseIPv4Octet f).octet = decVal f := by
  simp [isDecField] at h
  obtain ⟨⟨hne, hd⟩, hv⟩ := h
  have he : f.isEmpty = false := by cases f <;> simp_all
  simp only [parseIPv4Octet, he, Bool.false_eq_true, if_false]
  exact (octetLoop_spec f 0 0 true (by omega)).1 ⟨by simpa using hd, hv⟩

theorem octet_reject (f : Bytes) (h : isDecField f = false) : ∃ e, (parseIPv4Octet f).err = some e := by
  apply Option.ne_none_iff_exists'.1
  by_cases he : f.isEmpty = true
  · simp [parseIPv4Octet, he]
  · have he' : f.isEmpty = false := by simpa using he
    simp only [parseIPv4Octet, he', Bool.false_eq_true, if_false]
    apply (octetLoop_spec f 0 0 true (by omega)).2
    intro hc
    rw [isDecField, he', hc.1, decide_eq_true (show decVal f ≤ 255 from hc.2)] at h
    cases h

theorem splitOn_ne_nil (sep : UInt8) (b : Bytes) : splitOn sep b ≠ [] := by
  induction b with
  | nil => simp [splitOn]
  | cons c t ih =>
    simp only [splitOn]
    split
    · simp
    · split <;> simp

theorem splitOn_nosep (sep : UInt8) (b : Bytes) (h : b.contains sep = false) : splitOn sep b = [b] := by
  induction b with
  | nil => rfl
  | cons c t ih =>
    simp only [List.contains_cons, Bool.or_eq_false_iff] at h
    have hc : (c == sep) = false := by rw [Bool.beq_comm]; exact h.1
    simp [splitOn, hc, ih h.2]

theorem splitOn_sep (sep : UInt8) (b : Bytes) (h : b.contains sep = true) :
    splitOn sep b = b.takeWhile (· != sep) :: splitOn sep ((b.dropWhile (· != sep)).drop 1) := by
  induction b with
  | nil => simp at h
  | cons c t ih =>
    by_cases hc : c = sep
    · subst hc; simp [splitOn]
    · have hc' : (c == sep) = false := by simpa using hc
      have ht : t.contains sep = true := by
        simp only [List.contains_cons, Bool.or_eq_true] at h
        rcases h with h | h
        · exact absurd (eq_of_beq h).symm hc
        · exact h
      simp [splitOn, hc', ih ht, hc]

theorem splitOn_append (sep : UInt8) (l X : Bytes) :
    splitOn sep (l ++ sep :: X) = splitOn sep l ++ splitOn sep X := by
  induction l with
  | nil => simp [splitOn]
  | cons c t ih =>
    by_cases hc : c = sep
    · subst hc; simp [splitOn, ih]
    · have hc' : (c == sep) = false := by simpa using hc
      simp only [List.cons_append, splitOn, hc', Bool.false_eq_true, if_false, ih]
      cases h : splitOn sep t with
      | nil => exact absurd h (splitOn_ne_nil sep t)
      | cons a as => simp

theorem dot_not_decField (b : Bytes) (h : b.contains 46 = true) : isDecField b = false := by
  apply Bool.eq_false_iff.2
  intro hd
  simp only [isDecField, Bool.and_eq_true] at hd
  exact digits_not_mem b hd.1.2 46 rfl (by simpa using h)

theorem loop_spec (n : Nat) : ∀ (b : Bytes) (acc : List Nat),
    (parseIPv4Loop n b acc).toOption =
      if (splitOn 46 b).length = n + 1 ∧ (splitOn 46 b).all isDecField = true
      then some (acc ++ (splitOn 46 b).map decVal) else none := by
  induction n with
  | zero =>
    intro b acc
    by_cases hdot : b.contains 46 = true
    · obtain ⟨e, he⟩ := octet_reject b (dot_not_decField b hdot)
      have hlen : (splitOn 46 b).length ≠ 1 := by
        rw [splitOn_sep 46 b hdot]
        have := splitOn_ne_nil 46 ((b.dropWhile (· != 46)).drop 1)
        cases hs : splitOn 46 ((b.dropWhile (· != 46)).drop 1) with
        | nil => exact absurd hs this
        | cons x xs => simp
      simp [parseIPv4Loop, he, Except.toOption, hlen]
    · have hdot' : b.contains 46 = false := by simpa using hdot
      rw [splitOn_nosep 46 b hdot']
      simp only [parseIPv4Loop]
      by_cases hf : isDecField b = true
      · obtain ⟨h1, h2⟩ := octet_accept b hf
        simp [h1, h2, hf, Except.toOption]
      · have hf' : isDecField b = false := by simpa using hf
        obtain ⟨e, he⟩ := octet_reject b hf'
        simp [he, Except.toOption, hf']
  | succ n ih =>
    intro b acc
    by_cases hdot : b.contains 46 = true
    · rw [splitOn_sep 46 b hdot]
      simp only [parseIPv4Loop, hdot, Bool.not_true, Bool.false_eq_true, if_false]
      by_cases hf : isDecField (b.takeWhile (· != 46)) = true
      · obtain ⟨h1, h2⟩ := octet_accept _ hf
        simp only [h1, h2]
        rw [ih]
        simp [hf, List.append_assoc]
      · have hf' : isDecField (b.takeWhile (· != 46)) = false := by simpa using hf
        obtain ⟨e, he⟩ := octet_reject _ hf'
        simp [he, Except.toOption, hf']
    · have hdot' : b.contains 46 = false := by simpa using hdot
      rw [splitOn_nosep 46 b hdot']
      have hm : (46 : UInt8) ∉ b := by simpa using hdot'
      simp [parseIPv4Loop, hm, Except.toOption]

theorem parseIPv4_spec (s : Bytes) : (parseIPv4 s).toOption = dottedQuadSpec s := by
  unfold parseIPv4 dottedQuadSpec
  by_cases he : s.isEmpty = true
  · have : s = [] := by simpa using he
    subst this
    simp [splitOn, Except.toOption]
  · have he' : s.isEmpty = false := by simpa using he
    simp only [he', Bool.false_eq_true, if_false]
    rw [loop_spec]
    simp

theorem appendUint_field (n : Nat) (h : n ≤ 255) :
    isDecField (appendUint n) = true ∧ decVal (appendUint n) = n ∧ (appendUint n).contains 46 = false := by
  obtain ⟨h1, h2, h3⟩ := Fh.Props.C30.appendUint_spec n
  have hv : decVal (appendUint n) = n := by have := h3 0; simpa [decVal] using this
  have he : (appendUint n).isEmpty = false := by cases hx : appendUint n <;> simp_all
  refine ⟨?_, hv, by simpa using digits_not_mem _ h2 46 rfl⟩
  unfold isDecField
  rw [he, h2, hv]; simp [h]

theorem quad_append (a b c d : Nat) (ha : a ≤ 255) (hb : b ≤ 255) (hc : c ≤ 255) (hd : d ≤ 255) :
    dottedQuadSpec (appendIPv4 [a, b, c, d]) = some [a, b, c, d] := by
  obtain ⟨fa, va, na⟩ := appendUint_field a ha
  obtain ⟨fb, vb, nb⟩ := appendUint_field b hb
  obtain ⟨fc, vc, nc⟩ := appendUint_field c hc
  obtain ⟨fd, vd, nd⟩ := appendUint_field d hd
  have hs : splitOn 46 (appendIPv4 [a, b, c, d]) = [appendUint a, appendUint b, appendUint c, appendUint d] := by
    simp only [appendIPv4, List.append_assoc, List.cons_append]
    rw [splitOn_append, splitOn_append, splitOn_append, splitOn_nosep 46 _ na, splitOn_nosep 46 _ nb,
      splitOn_nosep 46 _ nc, splitOn_nosep 46 _ nd]
    rfl
  unfold dottedQuadSpec
  simp only [hs]
  simp [fa, fb, fc, fd, va, vb, vc, vd]

end Fh.Proofs.IPAddr
