/-
Lemmas for C06 (cookies): what `removeSemicolons` / `removeNewLines` leave behind, how a serialised cookie splits back
into the items AppendBytes wrote, what the RFC 6265 reference parser and ParseBytes make of those items, and the
request-cookie path.  Core Lean only.
-/
import FhVerif.Model.Cookie
import FhVerif.Spec.SetCookie
import FhVerif.Props.C30
import FhVerif.Props.C28
import FhVerif.Proofs.ByteClass
import FhVerif.Base.Run

namespace Fh.Proofs.Cookie
open Fh Fh.Model

def NoSemi (b : Bytes) : Prop := ∀ c ∈ b, c ≠ 59
def NoNL (b : Bytes) : Prop := ∀ c ∈ b, c ≠ 13 ∧ c ≠ 10

instance (b : Bytes) : Decidable (NoNL b) := inferInstanceAs (Decidable (∀ c ∈ b, c ≠ 13 ∧ c ≠ 10))

instance (b : Bytes) : Decidable (NoSemi b) := inferInstanceAs (Decidable (∀ c ∈ b, c ≠ 59))

/-- `removeNewLines` and `removeSemicolons` put a space for every byte of a class and keep the others -/
theorem replace_forall {p : UInt8 → Bool} {P : UInt8 → Prop} {b : Bytes} (h32 : P 32) (h : ∀ c ∈ b, p c = false → P c) :
    ∀ c ∈ b.map fun c => if p c then 32 else c, P c := by
  intro c hc
  obtain ⟨x, hx, rfl⟩ := List.mem_map.1 hc
  cases hp : p x
  · simpa [hp] using h x hx hp
  · simpa [hp] using h32

theorem replace_id {p : UInt8 → Bool} {b : Bytes} (h : ∀ c ∈ b, p c = false) :
    (b.map fun c => if p c then 32 else c) = b := by
  induction b with
  | nil => rfl
  | cons c t ih =>
    have ⟨hc, ht⟩ := List.forall_mem_cons.1 h
    simp [hc, ih ht]

theorem removeSemicolons_noSemi (b : Bytes) : NoSemi (removeSemicolons b) :=
  replace_forall (by decide) fun _ _ h => by simpa using h

theorem removeNewLines_noNL (b : Bytes) : NoNL (removeNewLines b) :=
  replace_forall (p := fun c => c == 13 || c == 10) (by decide) fun _ _ h => by simpa using h

theorem removeSemicolons_noNL (b : Bytes) (h : NoNL b) : NoNL (removeSemicolons b) :=
  replace_forall (by decide) fun c hc _ => h c hc

theorem removeNewLines_noSemi (b : Bytes) (h : NoSemi b) : NoSemi (removeNewLines b) :=
  replace_forall (p := fun c => c == 13 || c == 10) (by decide) fun c hc _ => h c hc

theorem ckSanitize_noSemi (b : Bytes) : NoSemi (ckSanitize b) := removeSemicolons_noSemi _
theorem ckSanitize_noNL (b : Bytes) : NoNL (ckSanitize b) := removeSemicolons_noNL _ (removeNewLines_noNL b)

theorem removeNewLines_id (b : Bytes) (h : NoNL b) : removeNewLines b = b :=
  replace_id (p := fun c => c == 13 || c == 10) fun c hc => by simp [h c hc]

theorem removeSemicolons_id (b : Bytes) (h : NoSemi b) : removeSemicolons b = b :=
  replace_id fun c hc => by simpa using h c hc

/-! ### a predicate on the entries of an argsKV list is kept by the list operations -/

theorem forall_setArg {P : KV → Prop} {l : ArgList} {k v : Bytes} (hl : ∀ e ∈ l, P e) (hn : P ⟨k, some v⟩) :
    ∀ e ∈ setArg l k (some v), P e := by
  induction l with
  | nil => simpa [setArg] using hn
  | cons a t ih =>
    have ⟨ha, ht⟩ := List.forall_mem_cons.1 hl
    unfold setArg
    by_cases hak : a.key = k
    · rw [if_pos hak, hak]; exact List.forall_mem_cons.2 ⟨hn, ht⟩
    · rw [if_neg hak]; exact List.forall_mem_cons.2 ⟨ha, ih ht⟩

theorem forall_appendArg {P : KV → Prop} {l : ArgList} {k v : Bytes} (hl : ∀ e ∈ l, P e) (hn : P ⟨k, some v⟩) :
    ∀ e ∈ appendArg l k (some v), P e :=
  List.forall_mem_append.2 ⟨hl, List.forall_mem_singleton.2 hn⟩

theorem forall_delAllArgs {P : KV → Prop} {l : ArgList} (k : Bytes) (hl : ∀ e ∈ l, P e) :
    ∀ e ∈ delAllArgsStable l k, P e := by
  rw [Props.C28.del_is_filter]
  exact fun e he => hl e (List.mem_filter.1 he).1

theorem ckSplit_forall {P : UInt8 → Prop} (b : Bytes) (h : ∀ x ∈ b, x ≠ 59 → P x) : ∀ p ∈ ckSplit b, ∀ x ∈ p, P x := by
  induction b with
  | nil => simp [ckSplit]
  | cons c t ih =>
    have ih := ih fun x hx => h x (List.mem_cons_of_mem _ hx)
    unfold ckSplit
    by_cases hc : c = 59
    · simpa [hc] using ih
    · have hc' : (c == 59) = false := by simpa using hc
      simp only [hc', Bool.false_eq_true, if_false]
      have hPc := h c (by simp) hc
      cases hs : ckSplit t with
      | nil => simpa using hPc
      | cons s r =>
        rw [hs] at ih
        simp only [List.forall_mem_cons] at ih ⊢
        exact ⟨⟨hPc, ih.1⟩, ih.2⟩

theorem ckPieces_forall {P : UInt8 → Prop} (b : Bytes) (h : ∀ x ∈ b, x ≠ 59 → P x) : ∀ p ∈ ckPieces b, ∀ x ∈ p, P x := by
  have hs := ckSplit_forall b h
  unfold ckPieces
  split
  · simp
  · cases hb : ckSplit b with
    | nil => simp
    | cons p ps =>
      rw [hb] at hs
      simp only [List.forall_mem_cons, List.forall_mem_map] at hs ⊢
      refine ⟨hs.1, fun q hq x hx => hs.2 q hq x ?_⟩
      unfold ckDropSp at hx
      split at hx
      · exact List.mem_cons_of_mem _ hx
      · exact hx

theorem ckSplit_nosep (x : Bytes) (h : NoSemi x) : ckSplit x = [x] := by
  induction x with
  | nil => rfl
  | cons c t ih =>
    have ⟨hc, ht⟩ := List.forall_mem_cons.1 h
    have hc : (c == 59) = false := by simpa using hc
    simp only [ckSplit, hc, Bool.false_eq_true, if_false, ih ht]

theorem ckSplit_append (x rest : Bytes) (h : NoSemi x) : ckSplit (x ++ 59 :: rest) = x :: ckSplit rest := by
  induction x with
  | nil => simp [ckSplit]
  | cons c t ih =>
    have ⟨hc, ht⟩ := List.forall_mem_cons.1 h
    have hc : (c == 59) = false := by simpa using hc
    simp only [List.cons_append, ckSplit, hc, Bool.false_eq_true, if_false, ih ht]

theorem ckSplit_pieces (ps : List Bytes) : ∀ (x : Bytes), NoSemi x → (∀ p ∈ ps, NoSemi p) →
    ckSplit (x ++ ps.flatMap (fun p => 59 :: 32 :: p)) = x :: ps.map (32 :: ·) := by
  induction ps with
  | nil => intro x hx _; simpa using ckSplit_nosep x hx
  | cons p t ih =>
    intro x hx hps
    have ⟨hp, ht⟩ := List.forall_mem_cons.1 hps
    have := ih (32 :: p) (List.forall_mem_cons.2 ⟨by decide, hp⟩) ht
    simp only [List.flatMap_cons, List.cons_append, List.map_cons] at this ⊢
    rw [ckSplit_append x _ hx, this]

theorem ckPieces_pieces (x : Bytes) (ps : List Bytes) (hx : NoSemi x) (hps : ∀ p ∈ ps, NoSemi p) :
    ckPieces (x ++ ps.flatMap (fun p => 59 :: 32 :: p)) =
      if (x ++ ps.flatMap (fun p => 59 :: 32 :: p)).isEmpty then [] else x :: ps := by
  have drop : ∀ ps : List Bytes, (ps.map (32 :: ·)).map ckDropSp = ps := fun ps => by
    induction ps with
    | nil => rfl
    | cons p t ih => simp only [List.map_cons, ckDropSp, ih]
  unfold ckPieces
  split
  · rfl
  · rw [ckSplit_pieces ps x hx hps]; simp only [drop]

theorem scSplit_eq (b : Bytes) : Spec.scSplit b = ckSplit b := by
  induction b with
  | nil => rfl
  | cons c t ih =>
    simp only [Spec.scSplit, ckSplit, ih]
    split
    · rfl
    · cases ckSplit t <;> rfl

/-- text fields free of ';', CR and LF: what the setters produce and what ParseBytes returns -/
structure Clean (c : Cookie) : Prop where
  key : NoSemi c.key
  value : NoSemi c.value
  domain : NoSemi c.domain
  path : NoSemi c.path
  keyNL : NoNL c.key
  valueNL : NoNL c.value
  domainNL : NoNL c.domain
  pathNL : NoNL c.path

/-- stated for an arbitrary clean path: `setPath` stores `ckSanitize (normalizePath p)`, and the unifier must not be led
    into `normalizePath` -/
theorem Clean.withPath {c : Cookie} (hc : Clean c) {p : Bytes} (h1 : NoSemi p) (h2 : NoNL p) : Clean { c with path := p } :=
  { hc with path := h1, pathNL := h2 }

theorem Clean.setPath {c : Cookie} (hc : Clean c) (p : Bytes) : Clean (c.setPath p) :=
  hc.withPath (ckSanitize_noSemi (normalizePath p)) (ckSanitize_noNL (normalizePath p))

theorem noSemi_nil : NoSemi [] := nofun

theorem noSemi_append {a b : Bytes} (ha : NoSemi a) (hb : NoSemi b) : NoSemi (a ++ b) := List.forall_mem_append.2 ⟨ha, hb⟩

theorem noSemi_named {n v : Bytes} (hn : NoSemi n) (hv : NoSemi v) : NoSemi (n ++ 61 :: v) :=
  noSemi_append hn (List.forall_mem_cons.2 ⟨by decide, hv⟩)

theorem appendUint_digits (n : Nat) : ∀ c ∈ appendUint n, 48 ≤ c.toNat ∧ c.toNat ≤ 57 := by
  intro c hc
  simpa [Spec.isDigitB] using List.all_eq_true.1 (Props.C30.appendUint_spec n).2.1 c hc

theorem appendUint_noSemi (n : Nat) : NoSemi (appendUint n) := by
  intro c hc h
  have := appendUint_digits n c hc
  subst h
  simp at this

/-- the shape of `Cookie.kvPiece` and `ckItem`: `key=value`, or `value` alone when the key is empty -/
theorem kv_forall {P : UInt8 → Prop} {k v : Bytes} (h61 : P 61) (hk : ∀ c ∈ k, P c) (hv : ∀ c ∈ v, P c) :
    ∀ c ∈ (if k.isEmpty then [] else k ++ [61]) ++ v, P c := by
  refine List.forall_mem_append.2 ⟨?_, hv⟩
  split
  · exact nofun
  · exact List.forall_mem_append.2 ⟨hk, List.forall_mem_singleton.2 h61⟩

theorem kvPiece_noSemi {c : Cookie} (h : Clean c) : NoSemi c.kvPiece := kv_forall (by decide) h.key h.value

theorem kvPiece_noNL {c : Cookie} (h : Clean c) : NoNL c.kvPiece := kv_forall (by decide) h.keyNL h.valueNL

theorem attrPieces_noSemi (D : DateCodec) (hD : ∀ t, NoSemi (D.fmt t)) {c : Cookie} (h : Clean c) :
    ∀ p ∈ c.attrPieces D, NoSemi p := by
  intro p hp
  simp only [Cookie.attrPieces, List.mem_append, List.mem_ite_nil_left, List.mem_ite_nil_right, List.mem_singleton] at hp
  rcases hp with (((((hp | ⟨_, rfl⟩) | ⟨_, rfl⟩) | ⟨_, rfl⟩) | ⟨_, rfl⟩) | hp) | ⟨_, rfl⟩
  · split at hp
    · rw [List.mem_singleton.1 hp]; exact noSemi_named (by decide) (appendUint_noSemi _)
    · split at hp
      · rw [List.mem_singleton.1 hp]; exact noSemi_named (by decide) (hD _)
      · cases hp
  · exact noSemi_named (by decide) h.domain
  · exact noSemi_named (by decide) h.path
  · decide
  · decide
  · revert p; cases c.sameSite <;> decide
  · decide

theorem pieces_of_append (D : DateCodec) (hD : ∀ t, NoSemi (D.fmt t)) {c : Cookie} (h : Clean c) :
    ckSplit (c.appendBytes D) = c.kvPiece :: (c.attrPieces D).map (32 :: ·) :=
  ckSplit_pieces _ _ (kvPiece_noSemi h) (attrPieces_noSemi D hD h)

/-! ### items `name=value` and `name`: both parsers cut at the first '=' -/

def NoEq (b : Bytes) : Prop := ∀ c ∈ b, (c != 61) = true

instance (b : Bytes) : Decidable (NoEq b) := inferInstanceAs (Decidable (∀ c ∈ b, (c != 61) = true))

theorem span_named {n : Bytes} (hn : NoEq n) (v : Bytes) :
    (n ++ 61 :: v).takeWhile (· != 61) = n ∧ (n ++ 61 :: v).dropWhile (· != 61) = 61 :: v := by
  rw [List.takeWhile_append_of_pos hn, List.dropWhile_append_of_pos hn]
  simp

theorem dropWhile_flag {n : Bytes} (hn : NoEq n) : n.dropWhile (· != 61) = [] := by
  simpa using List.dropWhile_append_of_pos (l₂ := []) hn

open Fh.Spec in
/-- what the reference parser makes of one attribute item (as it appears after "; ": with its leading space) -/
def avOf (p : Bytes) : Option (Spec.AttrName × Bytes) :=
  (Spec.scRecognise (Spec.scAv (32 :: p)).1).map fun a => (a, (Spec.scAv (32 :: p)).2)

theorem avOf_named {n : Bytes} {a : Spec.AttrName} (hn : NoEq (32 :: n))
    (ha : Spec.scRecognise (Spec.scTrim (32 :: n)) = some a) (v : Bytes) :
    avOf (n ++ 61 :: v) = some (a, Spec.scTrim v) := by
  have ⟨h1, h2⟩ := span_named hn v
  simp only [avOf, Spec.scAv, ← List.cons_append, h1, h2, ha, Option.map_some]

theorem avOf_flag {n : Bytes} {a : Spec.AttrName} (hn : NoEq (32 :: n))
    (ha : Spec.scRecognise (Spec.scTrim (32 :: n)) = some a) : avOf n = some (a, []) := by
  simp only [avOf, Spec.scAv, dropWhile_flag hn, ha, Option.map_some]

def sameSiteAttr : SameSite → List (Spec.AttrName × Bytes)
  | .disabled => []
  | .default => [(.sameSite, [])]
  | .lax => [(.sameSite, Spec.scTrim Gen.strCookieSameSiteLax)]
  | .strict => [(.sameSite, Spec.scTrim Gen.strCookieSameSiteStrict)]
  | .none => [(.sameSite, Spec.scTrim Gen.strCookieSameSiteNone)]

/-- attributes set on `c`, in the order AppendBytes writes them; max-age takes precedence over expires and a negative
    max-age is written as 0 (documented API behaviour); text values up to edge whitespace -/
def attrsSet (D : DateCodec) (c : Cookie) : List (Spec.AttrName × Bytes) :=
  (if c.maxAge ≠ 0 then [(.maxAge, Spec.scTrim (appendUint (if c.maxAge < 0 then 0 else c.maxAge.toNat)))]
   else match c.expire with
     | some t => [(.expires, Spec.scTrim (D.fmt t))]
     | none => []) ++
  (if c.domain.isEmpty then [] else [(.domain, Spec.scTrim c.domain)]) ++
  (if c.path.isEmpty then [] else [(.path, Spec.scTrim c.path)]) ++
  (if c.httpOnly then [(.httpOnly, [])] else []) ++
  (if c.secure then [(.secure, [])] else []) ++
  sameSiteAttr c.sameSite ++
  (if c.partitioned then [(.partitioned, [])] else [])

theorem filterMap_attrPieces (D : DateCodec) (c : Cookie) : (c.attrPieces D).filterMap avOf = attrsSet D c := by
  -- the eight literal names, as the reference parser recognises them (one evaluation)
  have lit : ∀ na ∈ [(Gen.strCookieMaxAge, Spec.AttrName.maxAge), (Gen.strCookieExpires, .expires),
      (Gen.strCookieDomain, .domain), (Gen.strCookiePath, .path), (Gen.strCookieSameSite, .sameSite),
      (Gen.strCookieHTTPOnly, .httpOnly), (Gen.strCookieSecure, .secure), (Gen.strCookiePartitioned, .partitioned)],
      NoEq (32 :: na.1) ∧ Spec.scRecognise (Spec.scTrim (32 :: na.1)) = some na.2 := by decide +kernel
  simp only [List.forall_mem_cons, List.not_mem_nil, false_imp_iff, implies_true, and_true] at lit
  obtain ⟨maxAge, expires, domain, path, sameSite, httpOnly, secure, partitioned⟩ := lit
  unfold Cookie.attrPieces attrsSet
  simp only [List.filterMap_append]
  iterate 6 congr 1
  · split
    · simp [avOf_named maxAge.1 maxAge.2]
    · cases c.expire <;> simp [avOf_named expires.1 expires.2]
  · split <;> simp [avOf_named domain.1 domain.2]
  · split <;> simp [avOf_named path.1 path.2]
  · split <;> simp [avOf_flag httpOnly.1 httpOnly.2]
  · split <;> simp [avOf_flag secure.1 secure.2]
  · cases c.sameSite <;> simp [sameSitePiece, sameSiteAttr, avOf_named sameSite.1 sameSite.2, avOf_flag sameSite.1 sameSite.2]
  · split <;> simp [avOf_flag partitioned.1 partitioned.2]

theorem rfcAttrs_append (D : DateCodec) (hD : ∀ t, NoSemi (D.fmt t)) {c : Cookie} (h : Clean c) :
    Spec.rfcAttrs (c.appendBytes D) = attrsSet D c := by
  unfold Spec.rfcAttrs
  rw [scSplit_eq, pieces_of_append D hD h]
  simp only [List.filterMap_map]
  rw [← filterMap_attrPieces]
  rfl

theorem ckTrim_subset (b : Bytes) (s : Bool) : ckTrim b s ⊆ b := by
  have hR : ckTrimRight (ckTrimLeft b) ⊆ b := fun y hy =>
    (List.dropWhile_sublist _).subset
      (List.mem_reverse.1 ((List.dropWhile_sublist _).subset (List.mem_reverse.1 hy)))
  intro x hx
  unfold ckTrim at hx
  simp only at hx
  split at hx
  · unfold ckUnquote at hx
    split at hx
    · exact hR (List.mem_of_mem_drop (List.dropLast_subset _ hx))
    · exact hR hx
  · exact hR hx

theorem ckTrim_id (b : Bytes) (s : Bool) (h : ∀ x ∈ b, x ≠ 32 ∧ x ≠ 34) : ckTrim b s = b := by
  -- neither `b` nor its reverse starts with a space or a quote
  have ends : ∀ l : Bytes, (∀ x ∈ l, x ≠ 32 ∧ x ≠ 34) → l.dropWhile (· == 32) = l ∧ l.head? ≠ some 34 := by
    rintro (_ | ⟨a, t⟩) hl
    · exact ⟨rfl, nofun⟩
    · have ha := hl a (List.mem_cons_self ..)
      simp [ha]
  have hr := (ends b.reverse fun x hx => h x (List.mem_reverse.1 hx)).1
  simp [ckTrim, ckTrimLeft, ckTrimRight, ckUnquote, ends b h, hr]

theorem noNL_trim {b : Bytes} (h : NoNL b) (s : Bool) : NoNL (ckTrim b s) := fun x hx => h x (ckTrim_subset b s hx)

theorem ckSplitKV_named (n v : Bytes) (hn : NoEq n) : ckSplitKV (n ++ 61 :: v) = (ckTrim n false, ckTrim v true) := by
  have ⟨h1, h2⟩ := span_named hn v
  simp only [ckSplitKV, h1, h2]

theorem ckSplitKV_flag (n : Bytes) (hn : NoEq n) : ckSplitKV n = ([], ckTrim n true) := by
  simp only [ckSplitKV, dropWhile_flag hn]

theorem ckSplitKV_subset (p : Bytes) : (ckSplitKV p).1 ⊆ p ∧ (ckSplitKV p).2 ⊆ p := by
  unfold ckSplitKV
  cases hv : p.dropWhile (· != 61) with
  -- `dsimp only` reduces the `match` on the constructor; left to the unifier this is slow
  | nil =>
    dsimp only
    exact ⟨List.nil_subset _, ckTrim_subset p true⟩
  | cons a v =>
    dsimp only
    refine ⟨fun x hx => (List.takeWhile_sublist _).subset (ckTrim_subset _ false hx), fun x hx => ?_⟩
    exact (List.dropWhile_sublist _).subset (hv ▸ List.mem_cons_of_mem a (ckTrim_subset v true hx))

section
open Fh.Gen

/-- the attribute loop of ParseBytes run over raw items -/
def run (D : DateCodec) (c0 : Cookie) (l : List Bytes) : Except CkErr Cookie := ckApplyAttrs D c0 (l.map ckSplitKV)

theorem run_nil (D : DateCodec) (c0 : Cookie) : run D c0 [] = .ok c0 := rfl

theorem run_single (D : DateCodec) (c0 : Cookie) (p : Bytes) : run D c0 [p] = ckApplyAttr D c0 (ckSplitKV p) := by
  simp only [run, List.map_cons, List.map_nil, ckApplyAttrs]
  cases ckApplyAttr D c0 (ckSplitKV p) <;> rfl

theorem run_append (D : DateCodec) (l1 l2 : List Bytes) : ∀ c0, run D c0 (l1 ++ l2) =
    match run D c0 l1 with
    | .ok c' => run D c' l2
    | .error e => .error e := by
  induction l1 with
  | nil => intro c0; rfl
  | cons p t ih =>
    intro c0
    simp only [run, List.cons_append, List.map_cons, ckApplyAttrs] at ih ⊢
    cases h : ckApplyAttr D c0 (ckSplitKV p) with
    | error e => rfl
    | ok c' => simp only [ih c']

/-- what the theorems need from the date codec (C31's subject: AppendHTTPDate / parseCookieExpires) -/
structure GoodDate (D : DateCodec) : Prop where
  noSemi : ∀ t, NoSemi (D.fmt t)
  trim : ∀ t, ckTrim (D.fmt t) true = D.fmt t
  roundtrip : ∀ t, D.parse (D.fmt t) = some t

theorem appendUint_trim (n : Nat) : ckTrim (appendUint n) true = appendUint n := by
  apply ckTrim_id
  intro x hx
  have := appendUint_digits n x hx
  constructor <;> (intro h; subst h; simp at this)

/-! One lemma per group of attribute items of `attrPieces`: the loop, started in a state `c0` that does not have the
    attribute yet, stores it.  The literal names are compared and trimmed by evaluation. -/

theorem seg_age (D : DateCodec) (hD : GoodDate D) (c0 c : Cookie) (h0 : c0.maxAge = 0 ∧ c0.expire = none)
    (hm : c.maxAge ≤ 2 ^ 63 - 1) (he : c.expire ≠ some 0) :
    run D c0 (if c.maxAge ≠ 0 then [strCookieMaxAge ++ 61 :: appendUint (if c.maxAge < 0 then 0 else c.maxAge.toNat)]
      else match (generalizing := false) c.expire with
        | some t => [strCookieExpires ++ 61 :: D.fmt t]
        | none => []) =
      .ok { c0 with maxAge := if c.maxAge < 0 then 0 else c.maxAge, expire := if c.maxAge ≠ 0 then none else c.expire } := by
  by_cases hz : c.maxAge = 0
  · simp only [hz, ne_eq, not_true_eq_false, if_false, Int.lt_irrefl]
    cases hx : c.expire with
    | none =>
      show Except.ok c0 = Except.ok { c0 with maxAge := 0, expire := none }
      rw [← h0.1, ← h0.2]
    | some t =>
      have ht : t ≠ 0 := fun h => he (h ▸ hx)
      simp only
      rw [run_single, ckSplitKV_named _ _ (by decide), hD.trim]
      simp +decide only [ckApplyAttr, hD.roundtrip, ht, ↓reduceIte, ← h0.1]
  · have hp := Props.C30.appendUint_parse_inverse 64 (Or.inl rfl) (if c.maxAge < 0 then 0 else c.maxAge.toNat)
      (by simp only [Spec.maxInt]; split <;> omega)
    have hn : ((if c.maxAge < 0 then 0 else c.maxAge.toNat : Nat) : Int) = if c.maxAge < 0 then 0 else c.maxAge := by
      split <;> omega
    simp only [ne_eq, hz, not_false_eq_true, if_true]
    rw [run_single, ckSplitKV_named _ _ (by decide), appendUint_trim]
    simp +decide only [ckApplyAttr, hp, hn, ↓reduceIte, ← h0.2]

theorem seg_domain (D : DateCodec) (c0 : Cookie) (d : Bytes) (h0 : c0.domain = []) (hnl : NoNL d) :
    run D c0 (if d.isEmpty then [] else [strCookieDomain ++ 61 :: d]) =
      if validCookieValue (ckTrim d true) then .ok { c0 with domain := ckTrim d true }
      else .error .invalidValue := by
  cases d with
  | nil =>
    show Except.ok c0 = Except.ok { c0 with domain := [] }
    rw [← h0]
  | cons a t =>
    rw [if_neg (by simp), run_single, ckSplitKV_named _ _ (by decide)]
    simp +decide only [ckApplyAttr, ↓reduceIte, removeNewLines_id _ (noNL_trim hnl true)]

theorem seg_path (D : DateCodec) (c0 : Cookie) (d : Bytes) (h0 : c0.path = []) (hnl : NoNL d) :
    run D c0 (if d.isEmpty then [] else [strCookiePath ++ 61 :: d]) =
      if validCookiePathValue (ckTrim d true) then .ok { c0 with path := ckTrim d true }
      else .error .invalidValue := by
  cases d with
  | nil =>
    show Except.ok c0 = Except.ok { c0 with path := [] }
    rw [← h0]
  | cons a t =>
    rw [if_neg (by simp), run_single, ckSplitKV_named _ _ (by decide)]
    simp +decide only [ckApplyAttr, ↓reduceIte, removeNewLines_id _ (noNL_trim hnl true)]

theorem seg_httpOnly (D : DateCodec) (c0 : Cookie) (b : Bool) (h0 : c0.httpOnly = false) :
    run D c0 (if b then [strCookieHTTPOnly] else []) = .ok { c0 with httpOnly := b } := by
  cases b
  · show Except.ok c0 = Except.ok { c0 with httpOnly := false }
    rw [← h0]
  · rw [if_pos rfl, run_single, ckSplitKV_flag _ (by decide)]
    simp +decide only [ckApplyAttr, ↓reduceIte]

theorem seg_secure (D : DateCodec) (c0 : Cookie) (b : Bool) (h0 : c0.secure = false) :
    run D c0 (if b then [strCookieSecure] else []) = .ok { c0 with secure := b } := by
  cases b
  · show Except.ok c0 = Except.ok { c0 with secure := false }
    rw [← h0]
  · rw [if_pos rfl, run_single, ckSplitKV_flag _ (by decide)]
    simp +decide only [ckApplyAttr, ↓reduceIte]

theorem seg_partitioned (D : DateCodec) (c0 : Cookie) (b : Bool) (h0 : c0.partitioned = false) :
    run D c0 (if b then [strCookiePartitioned] else []) = .ok { c0 with partitioned := b } := by
  cases b
  · show Except.ok c0 = Except.ok { c0 with partitioned := false }
    rw [← h0]
  · rw [if_pos rfl, run_single, ckSplitKV_flag _ (by decide)]
    simp +decide only [ckApplyAttr, ↓reduceIte]

theorem seg_sameSite (D : DateCodec) (c0 : Cookie) (m : SameSite) (h0 : c0.sameSite = .disabled) :
    run D c0 (sameSitePiece m) = .ok { c0 with sameSite := m } := by
  cases m <;> simp only [sameSitePiece]
  · show Except.ok c0 = Except.ok { c0 with sameSite := .disabled }
    rw [← h0]
  · rw [run_single, ckSplitKV_flag _ (by decide)]
    simp +decide only [ckApplyAttr, ↓reduceIte]
  all_goals
    rw [run_single, ckSplitKV_named _ _ (by decide)]
    simp +decide only [ckApplyAttr, ↓reduceIte]

/-- the cookie ParseBytes reconstructs: text values as trimCookieArgNoCopy leaves them, documented max-age/expires
    precedence, everything else as set -/
def canon (c : Cookie) : Cookie :=
  { key := (ckSplitKV c.kvPiece).1, value := (ckSplitKV c.kvPiece).2,
    domain := ckTrim c.domain true, path := ckTrim c.path true,
    maxAge := if c.maxAge < 0 then 0 else c.maxAge,
    expire := if c.maxAge ≠ 0 then none else c.expire,
    sameSite := c.sameSite, httpOnly := c.httpOnly, secure := c.secure, partitioned := c.partitioned }

/-- ParseBytes rejects the cookie (ErrInvalidCookieValue) exactly when this is false -/
def parseable (c : Cookie) : Bool :=
  validCookieValue (ckSplitKV c.kvPiece).2 && validCookieValue (ckTrim c.domain true) &&
    validCookiePathValue (ckTrim c.path true)

theorem parse_append (D : DateCodec) (hD : GoodDate D) (c : Cookie) (hc : Clean c)
    (hm : c.maxAge ≤ 2 ^ 63 - 1) (he : c.expire ≠ some 0) :
    Cookie.parseBytes D (c.appendBytes D) =
      if (c.appendBytes D).isEmpty then .error .noCookies
      else if parseable c then .ok (canon c) else .error .invalidValue := by
  have hp := ckPieces_pieces c.kvPiece (c.attrPieces D) (kvPiece_noSemi hc) (attrPieces_noSemi D hD.noSemi hc)
  unfold Cookie.parseBytes
  rw [show c.appendBytes D = c.kvPiece ++ (c.attrPieces D).flatMap (fun p => 59 :: 32 :: p) from rfl, hp]
  by_cases hemp : (c.kvPiece ++ (c.attrPieces D).flatMap (fun p => 59 :: 32 :: p)).isEmpty = true
  · simp only [hemp, if_true]
  · simp only [hemp, Bool.false_eq_true, if_false]
    have hk := ckSplitKV_subset c.kvPiece
    have hnl := kvPiece_noNL hc
    rw [removeNewLines_id _ (fun x hx => hnl x (hk.1 hx)), removeNewLines_id _ (fun x hx => hnl x (hk.2 hx))]
    by_cases hv : validCookieValue (ckSplitKV c.kvPiece).2 = true
    · simp only [hv, Bool.not_true, Bool.false_eq_true, if_false, parseable, Bool.true_and]
      show run D _ (c.attrPieces D) = _
      unfold Cookie.attrPieces
      simp only [run_append]
      -- `erw`: the `match` in the statement of `seg_age` is compiled to this module's matcher, the one in `attrPieces` to
      -- that of Model/Cookie; the two agree only after unfolding, which `rw` does not do
      erw [seg_age D hD _ c ⟨rfl, rfl⟩ hm he]
      simp only
      rw [seg_domain D _ c.domain rfl hc.domainNL]
      by_cases hd : validCookieValue (ckTrim c.domain true) = true
      · simp only [hd, if_true, Bool.true_and]
        rw [seg_path D _ c.path rfl hc.pathNL]
        by_cases hpth : validCookiePathValue (ckTrim c.path true) = true
        · simp only [hpth, if_true]
          simp only [seg_httpOnly, seg_secure, seg_sameSite, seg_partitioned]
          rfl
        · simp only [hpth, Bool.false_eq_true, if_false]
      · simp only [hd, Bool.false_eq_true, if_false, Bool.false_and]
    · simp only [hv, parseable, Bool.false_and, Bool.false_eq_true, if_false, Bool.not_false, if_true]

end

theorem ckJoin_cons (x : Bytes) (rest : List Bytes) : ckJoin (x :: rest) = x ++ rest.flatMap (fun p => 59 :: 32 :: p) := by
  induction rest generalizing x with
  | nil => simp [ckJoin]
  | cons y r ih => simp only [ckJoin, ih y, List.flatMap_cons, List.cons_append]

theorem parse_append_request (cs : ArgList) (h : ∀ e ∈ cs, NoSemi e.key ∧ NoSemi e.val) :
    parseRequestCookies (appendRequestCookieBytes cs) = (cs.map fun e => ckSplitKV (ckItem e)).filter ckKeep := by
  have item : ∀ e ∈ cs, NoSemi (ckItem e) := fun e he => kv_forall (by decide) (h e he).1 (h e he).2
  unfold parseRequestCookies appendRequestCookieBytes
  cases cs with
  | nil => rfl
  | cons e rest =>
    have ⟨he, hrest⟩ := List.forall_mem_cons.1 item
    simp only [List.map_cons, ckJoin_cons]
    rw [ckPieces_pieces _ _ he (List.forall_mem_map.2 hrest)]
    split
    · rename_i hemp
      simp only [List.isEmpty_iff, List.append_eq_nil_iff, List.flatMap_eq_nil_iff] at hemp
      obtain ⟨h1, h2⟩ := hemp
      have hr : rest = [] := by
        cases rest with
        | nil => rfl
        | cons e' r => have := h2 (ckItem e') (by simp); simp at this
      subst hr
      simp only [List.map_nil, h1]
      decide
    · simp only [List.map_cons, List.map_map]; rfl

theorem parseRequestCookies_subset (v : Bytes) : ∀ kv ∈ parseRequestCookies v, kv.1 ⊆ v ∧ kv.2 ⊆ v := by
  intro kv hkv
  simp only [parseRequestCookies, List.mem_filter, List.mem_map] at hkv
  obtain ⟨⟨p, hp, rfl⟩, _⟩ := hkv
  have hp' : p ⊆ v := ckPieces_forall (P := (· ∈ v)) v (fun x hx _ => hx) p hp
  exact ⟨(ckSplitKV_subset p).1.trans hp', (ckSplitKV_subset p).2.trans hp'⟩

/-- the cookie list after a sequence of RequestHeader.SetCookie calls -/
def reqOps (ops : List (Bytes × Bytes)) : ArgList := ops.foldl (fun cs kv => reqSetCookie cs kv.1 kv.2) []

theorem reqOps_clean (ops : List (Bytes × Bytes)) : ∀ e ∈ reqOps ops, NoSemi e.key ∧ NoSemi e.val :=
  foldl_inv (P := fun l : ArgList => ∀ e ∈ l, NoSemi e.key ∧ NoSemi e.val)
    (fun _ _ hl => forall_setArg hl ⟨ckSanitize_noSemi _, ckSanitize_noSemi _⟩) ops nofun

def OctetStr (b : Bytes) : Prop := ∀ x ∈ b, Spec.cookieOctet x = true

theorem octet_byte : ∀ c : UInt8, Spec.cookieOctet c = true →
    (c ≠ 32 ∧ c ≠ 34) ∧ (c ≠ 13 ∧ c ≠ 10) ∧ (c != 34 && c != 59 && c != 92) = true ∧
      (c == 13 || c == 10 || !(c < 32 || c ≥ 127 || c == 59)) = true :=
  ByteClass.forall_byte (by decide +kernel)

theorem octet_trim {b : Bytes} (h : OctetStr b) (s : Bool) : ckTrim b s = b :=
  ckTrim_id b s fun x hx => (octet_byte x (h x hx)).1

theorem octet_noNL {b : Bytes} (h : OctetStr b) : NoNL b := fun x hx => (octet_byte x (h x hx)).2.1

theorem octet_validValue {b : Bytes} (h : OctetStr b) : validCookieValue b = true :=
  List.all_eq_true.2 fun x hx => (octet_byte x (h x hx)).2.2.1

theorem octet_validPath {b : Bytes} (h : OctetStr b) : validCookiePathValue b = true :=
  List.all_eq_true.2 fun x hx => (octet_byte x (h x hx)).2.2.2

theorem octet_noSemi {b : Bytes} (h : OctetStr b) : NoSemi b := fun x hx => by
  have := List.all_eq_true.1 (octet_validValue h) x hx
  simp only [Bool.and_eq_true, bne_iff_ne] at this
  exact this.1.2

theorem octet_sanitize {b : Bytes} (h : OctetStr b) : ckSanitize b = b := by
  unfold ckSanitize
  rw [removeNewLines_id b (octet_noNL h), removeSemicolons_id b (octet_noSemi h)]

/-- a cookie-name: non-empty cookie-octets without '=' -/
structure CookieName (k : Bytes) : Prop where
  ne : k ≠ []
  oct : OctetStr k
  noEq : NoEq k

theorem splitKV_octets {k v : Bytes} (hk : CookieName k) (hv : OctetStr v) :
    ckSplitKV ((if k.isEmpty then [] else k ++ [61]) ++ v) = (k, v) := by
  rw [if_neg (by simpa using hk.ne), List.append_assoc, List.singleton_append,
    ckSplitKV_named _ _ hk.noEq, octet_trim hk.oct, octet_trim hv]

theorem parse_append_request_octets (cs : ArgList) (h : ∀ e ∈ cs, CookieName e.key ∧ OctetStr e.val) :
    parseRequestCookies (appendRequestCookieBytes cs) = cs.map fun e => (e.key, e.val) := by
  rw [parse_append_request cs (fun e he => ⟨octet_noSemi (h e he).1.oct, octet_noSemi (h e he).2⟩)]
  induction cs with
  | nil => rfl
  | cons e rest ih =>
    have ⟨he, hrest⟩ := List.forall_mem_cons.1 h
    have keep : ckKeep (e.key, e.val) = true := by
      have : e.key.isEmpty = false := by simpa using he.1.ne
      simp [ckKeep, this, octet_validValue he.2]
    rw [List.map_cons, show ckSplitKV (ckItem e) = _ from splitKV_octets he.1 he.2, List.filter_cons_of_pos keep,
      ih hrest, List.map_cons]

end Fh.Proofs.Cookie
