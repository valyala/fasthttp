/-
Behind C41: the semaphore invariant of the tryDial protocol; `tryDial` as a table of its finite environment; the
rotation loop of `dial`, by its functional induction.
-/
import FhVerif.Model.Dialer
import FhVerif.Base.Run

namespace Fh.Proofs.Dialer
open Fh Fh.Model.Dialer

/-- with a semaphore of capacity `N`, the dials in progress are exactly the occupied slots -/
def SInv (N : Nat) (s : State) : Prop := s.cap = N ∧ (0 < N → s.inProgress = s.sem ∧ s.sem ≤ N)

theorem countP_set_of {l : List Pc} {a : Nat} {old new : Pc} (h : l[a]? = some old) :
    (l.set a new).countP Pc.isDialing + old.isDialing.toNat = l.countP Pc.isDialing + new.isDialing.toNat := by
  obtain ⟨hlt, heq⟩ := List.getElem?_eq_some_iff.mp h
  rw [List.countP_set hlt, heq]
  cases ho : old.isDialing
  · rw [if_neg Bool.false_ne_true]
    cases new.isDialing <;> rfl
  · have hpos : 0 < l.countP Pc.isDialing :=
      List.countP_pos_iff.mpr ⟨old, heq ▸ List.getElem_mem hlt, ho⟩
    rw [if_pos rfl]
    cases new.isDialing <;> simp only [Bool.toNat_true, Bool.toNat_false, if_true, Bool.false_eq_true, if_false] <;> omega

/-- one actor moves from `old` to `new` while the channel goes from `s.sem` to `sem'` entries, by the same amount -/
theorem counts_set {s : State} {a : Nat} {old : Pc} (hpc : s.actors[a]? = some old) (new : Pc) (sem' : Nat)
    (hsem : sem' + old.isDialing.toNat = s.sem + new.isDialing.toNat) :
    State.inProgress { s with sem := sem', actors := s.actors.set a new } + s.sem = s.inProgress + sem' := by
  have := countP_set_of (new := new) hpc
  show (s.actors.set a new).countP Pc.isDialing + s.sem = s.actors.countP Pc.isDialing + sem'
  omega

/-- A step moves the number of dials in progress and the number of channel entries by the same amount, and puts an
    entry into the channel only where it has room.  The semaphore invariant is not needed for this: the deferred
    receive of `dialDone` is guarded by `sem ≠ 0` in the model (`C41.release_never_blocks` shows the guard holds). -/
theorem step_counts {s s' : State} {e : Ev} (h : step s e = some s') :
    s'.cap = s.cap ∧
    (s.cap > 0 → s'.inProgress + s.sem = s.inProgress + s'.sem ∧ (s.sem ≤ s.cap → s'.sem ≤ s.cap)) := by
  cases e with
  -- a new call is not dialing: `countP` of its singleton evaluates to 0
  | spawn | spawnExpired => cases h; exact ⟨rfl, fun _ => ⟨congrArg (· + s.sem) List.countP_append, id⟩⟩
  | trySend a =>
    rw [step] at h
    split at h
    · rename_i hpc
      rcases of_ite h with ⟨h0, h⟩ | ⟨_, h⟩
      · cases h; exact ⟨rfl, fun hc => absurd h0 (Nat.ne_of_gt hc)⟩
      rcases of_ite h with ⟨hlt, h⟩ | ⟨_, h⟩
      · cases h; exact ⟨rfl, fun _ => ⟨counts_set hpc .dialing (s.sem + 1) rfl, fun _ => hlt⟩⟩
      · cases h; exact ⟨rfl, fun _ => ⟨counts_set hpc .waiting s.sem rfl, id⟩⟩
    · cases h
  | acquire a =>
    rw [step] at h
    split at h
    · rename_i hpc
      obtain ⟨hlt, h⟩ := of_guard h
      cases h; exact ⟨rfl, fun _ => ⟨counts_set hpc .dialing (s.sem + 1) rfl, fun _ => hlt⟩⟩
    · cases h
  | timerFire a =>
    rw [step] at h
    split at h
    · rename_i hpc
      cases h; exact ⟨rfl, fun _ => ⟨counts_set hpc (.done .timeout) s.sem rfl, id⟩⟩
    · cases h
  | dialDone a o =>
    rw [step] at h
    split at h
    · rename_i hpc
      rcases of_ite h with ⟨h0, h⟩ | ⟨_, h⟩
      · cases h; exact ⟨rfl, fun hc => absurd h0 (Nat.ne_of_gt hc)⟩
      rcases of_ite h with ⟨_, h⟩ | ⟨hs, h⟩
      · cases h
      · cases h
        exact ⟨rfl, fun _ => ⟨counts_set hpc (.done (resOf o)) (s.sem - 1) (Nat.sub_add_cancel (Nat.pos_of_ne_zero hs)),
          Nat.le_trans (Nat.sub_le _ _)⟩⟩
    · cases h

theorem sinv_step {N : Nat} {s s' : State} {e : Ev} (hinv : SInv N s) (h : step s e = some s') : SInv N s' := by
  obtain ⟨hcap, hcnt⟩ := step_counts h
  obtain ⟨rfl, hinv⟩ := hinv
  refine ⟨hcap, fun hN => ?_⟩
  obtain ⟨h1, h2⟩ := hinv hN
  obtain ⟨h3, h4⟩ := hcnt hN
  exact ⟨by omega, h4 h2⟩

theorem run_eq_iter (s : State) (evs : List Ev) : run s evs = iter step s evs := by
  induction evs generalizing s with
  | nil => rfl
  | cons e es ih =>
    rw [run, Iter.iter_cons]
    cases step s e with
    | none => rfl
    | some s1 => exact ih s1

theorem sinv_run {N : Nat} {evs : List Ev} {s : State} (h : run (State.init N) evs = some s) : SInv N s :=
  Iter.inv (fun _ _ _ => sinv_step) ⟨rfl, fun _ => ⟨rfl, Nat.zero_le _⟩⟩ (run_eq_iter _ evs ▸ h)

/-- what `tryDial` returns: the three ways to time out, a connection, or the dial error — always tagged with the
    address it was called with -/
theorem tryDial_fst (addr : Bytes) (hasSem : Bool) (e : TryEnv) :
    (tryDial addr hasSem e).1 =
      if e.expired = true ∨ (hasSem = true ∧ e.sem = .timerFired) ∨ e.dial = .ctxDeadline then .err ⟨addr, true⟩
      else if e.dial = .connected then .conn addr else .err ⟨addr, false⟩ := by
  rcases e with ⟨_ | _, sem, dial⟩
  · cases hasSem <;> cases sem <;> cases dial <;> rfl
  · rfl

/-- every send on the semaphore channel is matched by the deferred receive -/
theorem tryDial_balanced (addr : Bytes) (hasSem : Bool) (e : TryEnv) :
    (tryDial addr hasSem e).2.sends = (tryDial addr hasSem e).2.recvs := by
  rcases e with ⟨_ | _, _ | _ | _, _ | _ | _⟩ <;> cases hasSem <;> rfl

theorem tryDial_err_upstream (addr : Bytes) (hasSem : Bool) (e : TryEnv) (x : Err)
    (h : (tryDial addr hasSem e).1 = .err x) : x.upstream = addr := by
  rw [tryDial_fst] at h
  split at h
  · cases h; rfl
  · split at h <;> cases h
    rfl

theorem tryDial_conn_upstream (addr : Bytes) (hasSem : Bool) (e : TryEnv) (u : Bytes)
    (h : (tryDial addr hasSem e).1 = .conn u) : u = addr := by
  rw [tryDial_fst] at h
  split at h
  · cases h
  · split at h <;> cases h
    rfl

/-- the `j`-th address index of the rotation that starts at `idx` -/
def rot (n idx j : Nat) : Nat := (idx % n + j) % n

theorem nextFixed_mod {n idx : Nat} (hn : 0 < n) (hW : n < W) : nextFixed n idx = idx % n + 1 :=
  Nat.mod_eq_of_lt (Nat.lt_of_le_of_lt (Nat.mod_lt _ hn) hW)

theorem rot_next {n idx : Nat} (hn : 0 < n) (hW : n < W) (j : Nat) :
    rot n (nextFixed n idx) j = rot n idx (j + 1) := by
  unfold rot
  rw [nextFixed_mod hn hW, Nat.mod_add_mod, Nat.add_assoc, Nat.add_comm 1 j]

theorem rot_zero (n idx : Nat) : rot n idx 0 = idx % n := Nat.mod_mod _ _

/-- The tries follow the rotation, and the loop stops short of `k` tries only with a connection or a timeout. -/
theorem tried_prefix (addrs : List Bytes) (hasSem : Bool) (env : Nat → Nat → TryEnv)
    (hn : 0 < addrs.length) (hW : addrs.length < W) (k idx t : Nat) (last : Option TryRes) :
    ∃ m, m ≤ k ∧ (dialLoop nextFixed addrs hasSem env k idx t last).tried = (List.range m).map (rot addrs.length idx) ∧
      ((∀ u, (dialLoop nextFixed addrs hasSem env k idx t last).res ≠ some (.conn u)) →
       (∀ e, (dialLoop nextFixed addrs hasSem env k idx t last).res = some (.err e) → e.isDialTimeout = false) → m = k) := by
  have one : ∀ idx, [idx % addrs.length] = (List.range 1).map (rot addrs.length idx) := fun idx =>
    congrArg (· :: []) (rot_zero _ idx).symm
  fun_induction dialLoop nextFixed addrs hasSem env k idx t last with
  | case1 => exact ⟨0, Nat.le_refl _, rfl, fun _ _ => rfl⟩
  | case2 k idx _ _ _ _ u => exact ⟨1, Nat.succ_le_succ (Nat.zero_le k), one idx, fun h1 _ => absurd rfl (h1 u)⟩
  | case3 k idx _ _ _ _ e _ ht =>
    exact ⟨1, Nat.succ_le_succ (Nat.zero_le k), one idx, fun _ h2 => nomatch ht.symm.trans (h2 e rfl)⟩
  | case4 k idx _ _ _ _ _ _ _ r ih =>
    obtain ⟨m, hm, htr, hall⟩ := ih
    refine ⟨m + 1, Nat.succ_le_succ hm, ?_, fun h1 h2 => congrArg (· + 1) (hall h1 h2)⟩
    show _ :: r.tried = _
    rw [htr, List.range_succ_eq_map, List.map_cons, List.map_map, rot_zero]
    exact congrArg _ (List.map_congr_left fun j _ => rot_next hn hW j)

/-- an error the loop returns is the one handed in, no try having been made, or names the last address tried -/
theorem err_names_last (next : Nat → Nat → Nat) (addrs : List Bytes) (hasSem : Bool) (env : Nat → Nat → TryEnv)
    (k idx t : Nat) (last : Option TryRes) (e : Err) (h : (dialLoop next addrs hasSem env k idx t last).res = some (.err e)) :
    ((dialLoop next addrs hasSem env k idx t last).tried = [] ∧ last = some (.err e)) ∨
    ∃ a, (dialLoop next addrs hasSem env k idx t last).tried.getLast? = some a ∧ e.upstream = addrs.getD a [] := by
  fun_induction dialLoop next addrs hasSem env k idx t last with
  | case1 => exact .inl ⟨rfl, h⟩
  | case2 => cases h
  | case3 _ _ _ _ _ _ _ hx =>
    cases h
    exact .inr ⟨_, rfl, tryDial_err_upstream _ _ _ _ hx⟩
  | case4 _ _ _ _ _ _ _ hx _ r ih =>
    rcases ih h with ⟨htr, hl⟩ | ⟨a, ha, hu⟩
    · -- this was the last try: its own error comes back
      cases hl
      exact .inr ⟨_, by show (_ :: r.tried).getLast? = _; rw [htr]; rfl, tryDial_err_upstream _ _ _ _ hx⟩
    · exact .inr ⟨a, by show (_ :: r.tried).getLast? = _; rw [List.getLast?_cons, ha]; rfl, hu⟩

theorem rot_covers (n idx a : Nat) (ha : a < n) : a ∈ (List.range n).map (rot n idx) := by
  have hn : 0 < n := by omega
  have hs : idx % n < n := Nat.mod_lt _ hn
  refine List.mem_map.mpr ⟨(a + n - idx % n) % n, List.mem_range.mpr (Nat.mod_lt _ hn), ?_⟩
  unfold rot
  rw [Nat.add_mod_mod]
  have : idx % n + (a + n - idx % n) = a + n := by omega
  rw [this, Nat.add_mod_right]
  exact Nat.mod_eq_of_lt ha

end Fh.Proofs.Dialer
