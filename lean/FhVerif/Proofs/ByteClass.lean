/-
Table lookups as tabulations.  A table of fasthttp's bytesconv_table.go is meant to hold, at index `c`,
the value of some predicate at `c`.  Said of the whole table this is one list equation,
`T.map g = (List.range n).map f`, which the kernel checks in a single pass over the table;
`tbl_tabulates` turns it into the statement about every byte.  `forall_byte` is the other way to a fact about every byte:
evaluate it at the 256 values.
-/
import FhVerif.Model.ByteClass
import FhVerif.Spec.ByteClass

namespace Fh.Proofs.ByteClass
open Fh Fh.Model

theorem forall_byte {P : UInt8 → Prop} (h : ∀ i : Fin 256, P (UInt8.ofNat i)) (c : UInt8) : P c := by
  simpa using h ⟨c.toNat, c.toNat_lt⟩

theorem eq_ofNat_of_toNat_eq {x : UInt8} {n : Nat} (h : x.toNat = n) : x = UInt8.ofNat n := by
  rw [← h, UInt8.ofNat_toNat]

theorem tbl_tabulates {β : Type} {T : List UInt8} {g : UInt8 → β} {f : Nat → β} {n : Nat}
    (h : T.map g = (List.range n).map f) (c : UInt8) (hc : c.toNat < n) : g (tbl T c) = f c.toNat := by
  have hg : g (T.getD c.toNat 255) = (T.map g).getD c.toNat (g 255) := by
    simp only [List.getD, List.getElem?_map]; cases T[c.toNat]? <;> rfl
  rw [tbl, hg, h]
  simp [List.getD, hc]

theorem tabulates_length {β : Type} {T : List UInt8} {g : UInt8 → β} {f : Nat → β} {n : Nat}
    (h : T.map g = (List.range n).map f) : T.length = n := by
  simpa using congrArg List.length h

end Fh.Proofs.ByteClass
