/-
Body streams (C34): fasthttp's chunked reader and the RFC 9112 reference decoder both undo the chunked writer; the
chunked reader's fuel suffices; the close bookkeeping invariant.
-/
import FhVerif.Model.StreamC34
import FhVerif.Proofs.IntCodec
import FhVerif.Spec.Rfc9112

namespace Fh.Proofs.StreamC34
open Fh Fh.Model Fh.Model.C34 Fh.Spec.Rfc Fh.Proofs.IntCodec

theorem writeHex_pos (n : Nat) : 0 < (writeHexInt n).length := by
  rw [writeHexInt]; split <;> simp

theorem writeChunk_data (p : Bytes) (hne : p ≠ []) (tail : Bytes) :
    writeChunk p ++ tail = writeHexInt p.length ++ crlf ++ (p ++ (crlf ++ tail)) := by
  simp only [writeChunk, if_pos (List.length_pos_iff.2 hne), List.append_assoc]

theorem writeChunk_end (rest : Bytes) : writeChunk [] ++ rest = writeHexInt 0 ++ crlf ++ rest := by
  simp [writeChunk]

/-- A reader loop that takes one data chunk per unit of fuel and stops at the end chunk reads what
`writeBodyChunked` wrote back as the concatenation of the parts; one unit of fuel per byte is enough. -/
theorem chunked_loop {ρ : Type} {loop : Nat → Bytes → Bytes → ρ} {fin : Bytes → ρ} {ok : Bytes → Prop} (rest : Bytes)
    (hdata : ∀ f p tail acc, p ≠ [] → ok p → loop (f + 1) (writeChunk p ++ tail) acc = loop f tail (acc ++ p))
    (hend : ∀ f acc, loop (f + 1) (writeChunk [] ++ rest) acc = fin acc)
    (parts : List Bytes) (hok : ∀ p ∈ parts, ok p) (fuel : Nat) (acc : Bytes)
    (hf : (writeBodyChunked parts ++ rest).length < fuel) :
    loop fuel (writeBodyChunked parts ++ rest) acc = fin (acc ++ parts.flatten) := by
  induction parts generalizing fuel acc with
  | nil =>
    obtain ⟨f, rfl⟩ := Nat.exists_eq_add_of_lt hf
    rw [writeBodyChunked, hend, List.flatten_nil, List.append_nil]
  | cons p ps ih =>
    have ih := ih fun q hq => hok q (List.mem_cons_of_mem _ hq)
    rw [writeBodyChunked] at hf ⊢
    rw [List.flatten_cons, ← List.append_assoc acc]
    cases p with
    | nil => simpa using ih fuel acc (by simpa using hf)
    | cons a t =>
      rw [List.isEmpty_cons, if_neg Bool.false_ne_true, List.append_assoc] at hf ⊢
      obtain ⟨f, rfl⟩ := Nat.exists_eq_add_of_lt hf
      rw [hdata _ _ _ _ (List.cons_ne_nil a t) (hok _ (List.mem_cons_self ..))]
      refine ih _ _ ?_
      -- the chunk just read is not empty
      have := writeHex_pos (a :: t).length
      simp only [writeChunk, List.length_append] at hf ⊢
      omega

/-! ### fasthttp's reader on it -/

theorem parseChunkSize_write (m n : Nat) (hm : 1 ≤ m) (hn : n < 16 ^ m) (rest : Bytes) :
    parseChunkSize m (writeHexInt n ++ crlf ++ rest) = .ok (n, rest) := by
  have hlen := writeHex_length n m hm hn
  have hread : readHexInt m (writeHexInt n ++ 13 :: 10 :: rest) = .ok (n, 13 :: 10 :: rest) := by
    rw [readHexInt, readHex_write m n 0 0 _ (by omega), readHexLoop]
    have h16 : (hex2int 13).toNat = 16 := by decide +kernel
    rw [if_pos h16, if_neg (by have := writeHex_pos n; omega), Nat.zero_mul, Nat.zero_add]
  rw [List.append_assoc, show crlf ++ rest = 13 :: 10 :: rest from rfl, parseChunkSize, hread]
  rfl

theorem readBodyChunked_chunk (m : Nat) (hm : 1 ≤ m) (f : Nat) (p tail dst : Bytes)
    (hne : p ≠ []) (hlen : p.length < 16 ^ m) :
    readBodyChunked m 0 (f + 1) (writeChunk p ++ tail) dst = readBodyChunked m 0 f tail (dst ++ p) := by
  rw [writeChunk_data p hne, readBodyChunked, parseChunkSize_write m p.length hm hlen]
  simp only [List.drop_left, List.take_left]
  rw [if_neg (by simpa using hne), if_neg (by omega), if_neg (by simp [crlf]), if_neg (by simp [crlf]),
    ← List.drop_drop, List.drop_left]
  rfl

theorem readBodyChunked_end (m : Nat) (hm : 1 ≤ m) (rest : Bytes) (f : Nat) (dst : Bytes) :
    readBodyChunked m 0 (f + 1) (writeChunk [] ++ rest) dst = .ok (dst, rest) := by
  rw [writeChunk_end, readBodyChunked, parseChunkSize_write m 0 hm (Nat.pow_pos (by decide))]
  rfl

/-! ### the RFC 9112 reference decoder (Spec/Rfc9112.lean) on it -/

theorem writeHex_forall {P : UInt8 → Prop} (h : ∀ d : Fin 16, P (lowerHexDigit d)) (n : Nat) :
    ∀ c ∈ writeHexInt n, P c := by
  induction n using writeHexInt.induct with
  | case1 n hn =>
    rw [writeHexInt, dif_pos hn]
    exact List.forall_mem_singleton.2 (h ⟨n, hn⟩)
  | case2 n hn ih =>
    rw [writeHexInt, dif_neg hn]
    exact List.forall_mem_append.2 ⟨ih, List.forall_mem_singleton.2 (h ⟨n % 16, Nat.mod_lt _ (by decide)⟩)⟩

theorem writeHex_digits (n : Nat) : ∀ c ∈ writeHexInt n, (hexVal c).isSome = true ∧ c ≠ 10 ∧ c ≠ 13 :=
  writeHex_forall (by decide +kernel) n

theorem hexVal_lowerHexDigit : ∀ d : Fin 16, hexVal (lowerHexDigit d) = some d.val := by decide +kernel

theorem writeHex_value (n : Nat) : ∀ acc, (writeHexInt n).foldl (fun a c => 16 * a + (hexVal c).getD 0) acc
    = acc * 16 ^ (writeHexInt n).length + n := by
  induction n using writeHexInt.induct with
  | case1 n h =>
    intro acc
    rw [writeHexInt, dif_pos h, List.foldl_cons, List.foldl_nil, hexVal_lowerHexDigit ⟨n, h⟩, Nat.mul_comm]
    rfl
  | case2 n h ih =>
    intro acc
    rw [writeHexInt, dif_neg h, List.foldl_append, ih, List.foldl_cons, List.foldl_nil,
      hexVal_lowerHexDigit ⟨n % 16, Nat.mod_lt _ (by decide)⟩, List.length_append, Nat.pow_add, Option.getD_some]
    simp only [List.length_cons, List.length_nil, ← Nat.mul_assoc, Nat.mul_comm 16]
    omega

theorem splitLine_crlf (l x : Bytes) (hl : ∀ c ∈ l, c ≠ 10) :
    splitLine (l ++ crlf ++ x) = some (l, x) := by
  have hp : ∀ c ∈ l ++ [13], (c != 10) = true :=
    List.forall_mem_append.2 ⟨fun c hc => bne_iff_ne.2 (hl c hc), List.forall_mem_singleton.2 rfl⟩
  have e : l ++ crlf ++ x = (l ++ [13]) ++ (10 :: x) := by simp [crlf]
  rw [splitLine, e, List.takeWhile_append_of_pos hp, List.dropWhile_append_of_pos hp]
  simp

theorem parseChunkLine_write (n : Nat) : parseChunkLine (writeHexInt n) = some n := by
  have hall : ∀ c ∈ writeHexInt n, (fun c => (hexVal c).isSome) c = true := fun c hc => (writeHex_digits n c hc).1
  have ht := List.takeWhile_append_of_pos (l₂ := []) hall
  have hd := List.dropWhile_append_of_pos (l₂ := []) hall
  rw [List.append_nil] at ht hd
  have hne : (writeHexInt n).isEmpty = false :=
    List.isEmpty_eq_false_iff.2 (List.length_pos_iff.1 (writeHex_pos n))
  simp [parseChunkLine, ht, hd, hne, writeHex_value n 0]

theorem readChunks_chunk (f : Nat) (p tail acc : Bytes) (hne : p ≠ []) :
    readChunks (f + 1) (writeChunk p ++ tail) acc = readChunks f tail (acc ++ p) := by
  rw [writeChunk_data p hne, readChunks, splitLine_crlf _ _ fun c hc => (writeHex_digits _ c hc).2.1]
  simp only [parseChunkLine_write]
  obtain ⟨k, hk⟩ := Nat.exists_eq_succ_of_ne_zero (mt List.eq_nil_of_length_eq_zero hne)
  rw [hk]
  simp only
  rw [← hk, if_neg (by simp), List.drop_left, List.take_left]
  rfl

theorem readChunks_end (rest : Bytes) (f : Nat) (acc : Bytes) :
    readChunks (f + 1) (writeChunk [] ++ (crlf ++ rest)) acc = .ok acc rest := by
  rw [writeChunk_end, readChunks, splitLine_crlf _ _ fun c hc => (writeHex_digits _ c hc).2.1]
  simp only [parseChunkLine_write]
  have hs : splitLine (crlf ++ rest) = some ([], rest) := splitLine_crlf [] rest nofun
  simp [readFields, hs]

/-! ### the reader's fuel is sufficient (termination of readBodyChunked)

Every stage of `parseChunkSize` fails with an error of its own or leaves no more than it was given, and the last
one takes a CRLF; so each round of `readBodyChunked` consumes at least those two bytes. -/

theorem readHexLoop_suffix (m : Nat) (s : Bytes) (n i v : Nat) (rest : Bytes)
    (h : readHexLoop m n i s = .ok (v, rest)) : ∃ pre, s = pre ++ rest := by
  fun_induction readHexLoop m n i s with
  | case1 | case4 => cases h; exact ⟨[], rfl⟩
  | case2 | case3 | case5 => cases h
  | case6 _ _ c _ _ _ _ ih => obtain ⟨pre, e⟩ := ih h; exact ⟨c :: pre, congrArg _ e⟩

theorem chunkExtLoop_res (a b : Bool) (s : Bytes) (n : Nat) (hn : s.length ≤ n) :
    chunkExtLoop a b s = .error .brokenChunk ∨ ∃ r, chunkExtLoop a b s = .ok r ∧ r.length ≤ n := by
  fun_induction chunkExtLoop a b s with
  | case1 | case3 | case6 | case8 => exact .inl rfl
  | case2 => exact .inr ⟨_, rfl, hn⟩
  | case4 _ _ _ _ _ ih | case5 _ _ _ _ _ _ _ _ ih | case7 _ _ _ _ _ _ _ _ ih => exact ih (Nat.le_of_succ_le hn)

theorem readCrLf_res (s : Bytes) :
    readCrLf s = .error .brokenChunk ∨ ∃ r, readCrLf s = .ok r ∧ r.length + 2 = s.length := by
  unfold readCrLf
  split
  · exact .inr ⟨_, rfl, rfl⟩
  · exact .inl rfl

theorem parseChunkSize_res (m : Nat) (s : Bytes) :
    match parseChunkSize m s with
    | .error e => e ≠ .fuel
    | .ok (_, rest) => rest.length + 2 ≤ s.length := by
  rw [parseChunkSize]
  cases h1 : readHexInt m s with
  | error e => exact nofun
  | ok p =>
    obtain ⟨pre, e⟩ := readHexLoop_suffix m s 0 0 p.1 p.2 h1
    rcases chunkExtLoop_res false false p.2 s.length (by rw [e, List.length_append]; omega) with h2 | ⟨r, h2, hl⟩ <;>
      simp only [h2]
    · exact nofun
    · rcases readCrLf_res r with h3 | ⟨r', h3, hl'⟩ <;> simp only [h3]
      · exact nofun
      · omega

theorem readBodyChunked_fuel (m maxBody fuel : Nat) (s dst : Bytes) (hf : fuel > s.length) :
    readBodyChunked m maxBody fuel s dst ≠ .error .fuel := by
  fun_induction readBodyChunked m maxBody fuel s dst with
  | case1 => exact absurd hf (Nat.not_lt_zero _)
  | case2 _ s _ e he =>
    have := parseChunkSize_res m s
    rw [he] at this
    exact mt Except.error.inj this
  | case3 | case4 | case5 | case6 => exact nofun
  | case7 _ s _ n rest he _ _ hlen _ ih =>
    have := parseChunkSize_res m s
    rw [he] at this
    exact ih (by rw [List.length_drop]; omega)

/-! ### close bookkeeping -/

/-- invariant of the close state machine -/
structure CloseInv (s : CloseSt) : Prop where
  /-- no stream is closed twice -/
  nodup : s.log.Nodup
  /-- an original behind a wrapper is closed only through the wrapper's flag-guarded closeOriginal* -/
  wrapLog : ∀ id, id ∈ s.wrapped → (id ∈ s.log ↔ id ∈ s.origClosed)
  origLog : ∀ id, id ∈ s.origClosed → id ∈ s.log
  attPlain : ∀ id, s.att = .plain id → id ∉ s.log ∧ id ∉ s.wrapped
  attComp : ∀ id, s.att = .comp id → id ∈ s.wrapped
  pendWrap : ∀ id, id ∈ s.pending → id ∈ s.wrapped
  /-- every stream ever attached and no longer attached has been closed -/
  detached : ∀ id, id ∈ s.everSet → s.att ≠ .plain id → s.att ≠ .comp id → id ∈ s.log
  attSet : ∀ id, (s.att = .plain id ∨ s.att = .comp id) → id ∈ s.everSet
  logSet : ∀ id, id ∈ s.log → id ∈ s.everSet
  wrapSet : ∀ id, id ∈ s.wrapped → id ∈ s.everSet

theorem closeInv_init : CloseInv {} :=
  ⟨List.nodup_nil, nofun, nofun, nofun, nofun, nofun, nofun, nofun, nofun, nofun⟩

/-- closeOriginal* writes the close log and the flag only -/
theorem closeOrig_frame (s : CloseSt) (id : Nat) :
    (closeOrig s id).att = s.att ∧ (closeOrig s id).everSet = s.everSet ∧
    (closeOrig s id).pending = s.pending ∧ (closeOrig s id).wrapped = s.wrapped := by
  unfold closeOrig; split <;> exact ⟨rfl, rfl, rfl, rfl⟩

/-- closing the original of wrapper `id` under the lock keeps the invariant and leaves `id` closed -/
theorem closeOrig_inv (s : CloseSt) (id : Nat) (h : CloseInv s) (hw : id ∈ s.wrapped) :
    CloseInv (closeOrig s id) ∧ id ∈ (closeOrig s id).log := by
  unfold closeOrig
  by_cases hc : id ∈ s.origClosed
  · rw [if_pos hc]
    exact ⟨h, h.origLog id hc⟩
  · have hnl : id ∉ s.log := fun hl => hc ((h.wrapLog id hw).mp hl)
    rw [if_neg hc]
    refine ⟨⟨List.nodup_cons.mpr ⟨hnl, h.nodup⟩, ?_, List.cons_subset_cons id h.origLog, ?_, h.attComp, h.pendWrap, ?_,
      h.attSet, List.forall_mem_cons.2 ⟨h.wrapSet id hw, h.logSet⟩, h.wrapSet⟩, List.mem_cons_self ..⟩
    · intro x hx
      simp only [List.mem_cons, h.wrapLog x hx]
    · intro x hx
      obtain ⟨h1, h2⟩ := h.attPlain x hx
      exact ⟨List.not_mem_cons_of_ne_of_not_mem (fun e => h2 (e ▸ hw)) h1, h2⟩
    · intro x hx h1 h2
      exact List.mem_cons_of_mem _ (h.detached x hx h1 h2)

theorem detach_att (s : CloseSt) : (detach s).att = .none := by
  unfold detach; split <;> first | assumption | rfl

theorem detach_everSet (s : CloseSt) : (detach s).everSet = s.everSet := by
  unfold detach; split <;> first | rfl | exact (closeOrig_frame s _).2.1

theorem detach_inv (s : CloseSt) (h : CloseInv s) : CloseInv (detach s) := by
  unfold detach
  cases hatt : s.att with
  | none => exact h
  | plain id =>
    obtain ⟨hnl, hnw⟩ := h.attPlain id hatt
    refine ⟨List.nodup_cons.mpr ⟨hnl, h.nodup⟩, ?_, fun x hx => List.mem_cons_of_mem _ (h.origLog x hx), nofun, nofun,
      h.pendWrap, ?_, nofun, List.forall_mem_cons.2 ⟨h.attSet id (.inl hatt), h.logSet⟩, h.wrapSet⟩
    · intro x hx
      have hxi : x ≠ id := fun e => hnw (e ▸ hx)
      simp only [List.mem_cons, hxi, false_or]
      exact h.wrapLog x hx
    · intro x hx _ _
      by_cases hxi : x = id
      · exact hxi ▸ List.mem_cons_self ..
      · exact List.mem_cons_of_mem _
          (h.detached x hx (hatt ▸ fun e => hxi (Att.plain.inj e).symm) (hatt ▸ nofun))
  | comp id =>
    obtain ⟨hinv, hin⟩ := closeOrig_inv s id h (h.attComp id hatt)
    have hca := (closeOrig_frame s id).1.trans hatt
    refine ⟨hinv.nodup, hinv.wrapLog, hinv.origLog, nofun, nofun, hinv.pendWrap, ?_, nofun, hinv.logSet, hinv.wrapSet⟩
    intro x hx _ _
    by_cases hxi : x = id
    · exact hxi ▸ hin
    · exact hinv.detached x hx (hca ▸ nofun) (hca ▸ fun e => hxi (Att.comp.inj e).symm)

theorem closeStep_inv (s : CloseSt) (e : CloseEv) (h : CloseInv s)
    (hfresh : ∀ id, e = .set id → id ∉ s.everSet) : CloseInv (closeStep s e) := by
  cases e with
  | set id =>
    have hd := detach_inv s h
    have hatt := detach_att s
    have hf : id ∉ (detach s).everSet := detach_everSet s ▸ hfresh id rfl
    refine ⟨hd.nodup, hd.wrapLog, hd.origLog, ?_, nofun, hd.pendWrap,
      List.forall_mem_cons.2 ⟨absurd rfl, fun x hx _ _ => hd.detached x hx (hatt ▸ nofun) (hatt ▸ nofun)⟩, ?_,
      fun x hx => List.mem_cons_of_mem _ (hd.logSet x hx), fun x hx => List.mem_cons_of_mem _ (hd.wrapSet x hx)⟩
    · intro x hx; cases hx
      exact ⟨mt (hd.logSet _) hf, mt (hd.wrapSet _) hf⟩
    · rintro x (hx | hx)
      · cases hx; exact List.mem_cons_self ..
      · cases hx
  | compress =>
    simp only [closeStep]
    cases hatt : s.att with
    | none => exact h
    | comp id => exact h
    | plain id =>
      obtain ⟨hnl, hnw⟩ := h.attPlain id hatt
      have hset := h.attSet id (Or.inl hatt)
      refine ⟨h.nodup, List.forall_mem_cons.2 ⟨⟨fun hl => absurd hl hnl, h.origLog _⟩, h.wrapLog⟩, h.origLog, nofun, ?_,
        List.cons_subset_cons id h.pendWrap, ?_, ?_, h.logSet, List.forall_mem_cons.2 ⟨hset, h.wrapSet⟩⟩
      · intro x hx; cases hx; exact List.mem_cons_self ..
      · intro x hx _ hnc
        exact h.detached x hx (hatt ▸ fun e => hnc (congrArg Att.comp (Att.plain.inj e))) (hatt ▸ nofun)
      · rintro x (hx | hx)
        · cases hx
        · cases hx; exact hset
  | detachClose ce => exact detach_inv s h
  | panicWrite | noop => exact h
  | writerFinish id =>
    simp only [closeStep]
    split
    · rename_i hp
      have h1 : CloseInv { s with pending := s.pending.erase id } :=
        ⟨h.nodup, h.wrapLog, h.origLog, h.attPlain, h.attComp, fun x hx => h.pendWrap x (List.mem_of_mem_erase hx),
          h.detached, h.attSet, h.logSet, h.wrapSet⟩
      exact (closeOrig_inv _ id h1 (h.pendWrap id hp)).1
    · exact h

/-- the ids attached by a trace are fresh w.r.t. the run so far -/
def FreshTrace : List Nat → List CloseEv → Prop
  | _, [] => True
  | seen, .set id :: rest => id ∉ seen ∧ FreshTrace (id :: seen) rest
  | seen, _ :: rest => FreshTrace seen rest

theorem closeStep_everSet (s : CloseSt) (e : CloseEv) :
    (closeStep s e).everSet = match e with | .set id => id :: s.everSet | _ => s.everSet := by
  cases e with
  | set id => exact congrArg (id :: ·) (detach_everSet s)
  | compress => simp only [closeStep]; split <;> rfl
  | detachClose ce => exact detach_everSet s
  | panicWrite | noop => rfl
  | writerFinish id =>
    simp only [closeStep]
    split
    · exact (closeOrig_frame _ id).2.1
    · rfl

theorem closeFold_inv (evs : List CloseEv) (s : CloseSt) (h : CloseInv s) (hf : FreshTrace s.everSet evs) :
    CloseInv (evs.foldl closeStep s) := by
  induction evs generalizing s with
  | nil => exact h
  | cons e rest ih =>
    refine ih _ (closeStep_inv s e h fun id he => by subst he; exact hf.1) ?_
    rw [closeStep_everSet s e]
    cases e <;> first | exact hf | exact hf.2

end Fh.Proofs.StreamC34
