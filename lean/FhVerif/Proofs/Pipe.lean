/-
Lemmas for C33.  Pipe: `Dir.write` and `Dir.read` by cases; a Read returns the first bytes pending (`read_spec`); the
literal loop; what an event does to one direction of the two-way pipe, hence conservation of bytes and the
behaviour after Close.  Listener: every event as a chain of guarded updates of the tables; invariant and stability per update.
-/
import FhVerif.Model.Pipe
import FhVerif.Base.Run

namespace Fh.Proofs.Pipe
open Fh Fh.Model.Pipe

theorem readMore_spec (n : Nat) (l : List Bytes) :
    (readMore n l).1 = l.flatten.take n ∧ (readMore n l).2.2 ++ (readMore n l).2.1.flatten = l.flatten.drop n := by
  fun_induction readMore n l with
  | case1 => simp
  | case2 b rest => simp
  | case3 n b rest h0 h1 => simp [List.take_append_of_le_length h1, List.drop_append_of_le_length h1]
  | case4 n b rest h0 h1 r ih =>
    have h1 : b.length ≤ n := by omega
    simp [r, ih, List.take_append, List.drop_append, List.take_of_length_le h1, List.drop_eq_nil_of_le h1]

theorem readMore_chan (n : Nat) (l : List Bytes) (hn : 0 < n) : (readMore n l).2.1.length ≤ l.length - 1 := by
  fun_induction readMore n l with
  | case1 => simp
  | case2 => omega
  | case3 => simp
  | case4 n b rest h0 h1 r ih => have := ih (by omega); simp only [r, List.length_cons]; omega

theorem write_cases {motive : WRes × Dir → Prop} (cap : Nat) (st : Bool) (s : Dir) (p : Bytes)
    (closed : st = true → motive (.closed, s)) (block : st = false → cap ≤ s.chan.length → motive (.block, s))
    (ok : st = false → s.chan.length < cap →
      motive (.ok p.length, { s with chan := s.chan ++ [p], written := s.written ++ p })) :
    motive (s.write cap st p) := by
  unfold Dir.write
  cases st
  · by_cases h : cap ≤ s.chan.length
    · rw [if_neg nofun, if_pos h]; exact block rfl h
    · rw [if_neg nofun, if_neg h]; exact ok rfl (by omega)
  · exact closed rfl

/-- the buffers a read starts from: the partly read one, then the channel -/
def bufs (s : Dir) : List Bytes := if s.bb = [] then s.chan else s.bb :: s.chan

theorem bufs_flatten (s : Dir) : (bufs s).flatten = s.pending := by
  unfold bufs Dir.pending; split <;> simp [*]

theorem bufs_length (s : Dir) : (bufs s).length = s.chan.length + if s.bb = [] then 0 else 1 := by
  unfold bufs; split <;> rfl

theorem read_cases {motive : RRes × Dir → Prop} (st : Bool) (s : Dir) (n : Nat)
    (zero : n = 0 → motive (⟨[], .nil⟩, s))
    (empty : 0 < n → s.bb = [] → s.chan = [] → motive (⟨[], if st then .eof else .block⟩, s))
    (more : 0 < n → ¬(s.bb = [] ∧ s.chan = []) →
      motive (⟨(readMore n (bufs s)).1, .nil⟩, { s with chan := (readMore n (bufs s)).2.1, bb := (readMore n (bufs s)).2.2,
                                                         readAcc := s.readAcc ++ (readMore n (bufs s)).1 })) :
    motive (s.read st n) := by
  unfold Dir.read
  by_cases h0 : n = 0
  · rw [if_pos h0]; exact zero h0
  · by_cases h1 : s.bb = [] ∧ s.chan = []
    · rw [if_neg h0, if_pos h1]; exact empty (by omega) h1.1 h1.2
    · rw [if_neg h0, if_neg h1]; exact more (by omega) h1

theorem read_spec (st : Bool) (s : Dir) (n : Nat) :
    (s.read st n).1.data = s.pending.take n ∧ (s.read st n).2.pending = s.pending.drop n := by
  refine read_cases (motive := fun r => r.1.data = s.pending.take n ∧ r.2.pending = s.pending.drop n) st s n ?_ ?_ ?_
  · rintro rfl; exact ⟨rfl, rfl⟩
  · intro _ hb hc; simp [Dir.pending, hb, hc]
  · intro _ _; rw [← bufs_flatten]; exact readMore_spec n (bufs s)

theorem read_pending (st : Bool) (s : Dir) (n : Nat) : (s.read st n).1.data ++ (s.read st n).2.pending = s.pending := by
  rw [(read_spec st s n).1, (read_spec st s n).2, List.take_append_drop]

theorem read_ghost (st : Bool) (s : Dir) (n : Nat) :
    (s.read st n).2.readAcc = s.readAcc ++ (s.read st n).1.data ∧ (s.read st n).2.written = s.written :=
  read_cases (motive := fun r => r.2.readAcc = s.readAcc ++ r.1.data ∧ r.2.written = s.written) st s n
    (fun _ => ⟨(List.append_nil _).symm, rfl⟩) (fun _ _ _ => ⟨(List.append_nil _).symm, rfl⟩) (fun _ _ => ⟨rfl, rfl⟩)

theorem read_chan_le (st : Bool) (s : Dir) (n : Nat) : (s.read st n).2.chan.length ≤ s.chan.length := by
  refine read_cases (motive := fun r => r.2.chan.length ≤ s.chan.length) st s n (fun _ => Nat.le_refl _)
    (fun _ _ _ => Nat.le_refl _) fun hn _ => ?_
  have := readMore_chan n (bufs s) hn
  rw [bufs_length] at this
  show (readMore n (bufs s)).2.1.length ≤ s.chan.length
  split at this <;> omega

theorem measure_eq (s : Dir) : s.measure = s.pending.length + s.chan.length := by
  simp [Dir.measure, Dir.pending]

theorem pending_le_measure (s : Dir) : s.pending.length ≤ s.measure := by
  rw [measure_eq]; exact Nat.le_add_right ..

theorem read_empty (st : Bool) (s : Dir) (n : Nat) (hn : 0 < n) (hb : s.bb = []) (hc : s.chan = []) :
    s.read st n = (⟨[], if st then .eof else .block⟩, s) := by
  rw [Dir.read, if_neg (Nat.ne_of_gt hn), if_pos ⟨hb, hc⟩]

theorem read_nonempty (st : Bool) (s : Dir) (n : Nat) (hn : 0 < n) (hne : ¬(s.bb = [] ∧ s.chan = [])) :
    (s.read st n).1.err = .nil ∧ (s.read st n).2.measure < s.measure := by
  refine read_cases (motive := fun r => r.1.err = .nil ∧ r.2.measure < s.measure) st s n (fun h => by omega)
    (fun _ hb hc => absurd ⟨hb, hc⟩ hne) fun _ _ => ⟨rfl, ?_⟩
  have h1 := congrArg List.length (readMore_spec n (bufs s)).2
  have h2 := readMore_chan n (bufs s) hn
  rw [bufs_flatten, List.length_drop] at h1
  rw [bufs_length] at h2
  rw [measure_eq, measure_eq]
  simp only [Dir.pending, List.length_append] at h1 ⊢
  -- the pending bytes get fewer (`h1`) and a buffer leaves the channel (`h2`), unless the read started in a non-empty `bb`
  by_cases hb : s.bb = []
  · have : 0 < s.chan.length := List.length_pos_iff.mpr fun hc => hne ⟨hb, hc⟩
    rw [if_pos hb] at h2; omega
  · have : 0 < s.bb.length := List.length_pos_iff.mpr hb
    rw [if_neg hb] at h2; omega

structure DInv (cap : Nat) (s : Dir) : Prop where
  conserve : s.readAcc ++ s.pending = s.written
  room : s.chan.length ≤ cap

theorem dinv_init (cap : Nat) : DInv cap Dir.init := ⟨rfl, Nat.zero_le _⟩

theorem write_dinv {cap : Nat} {s : Dir} (st : Bool) (p : Bytes) (h : DInv cap s) : DInv cap (s.write cap st p).2 := by
  refine write_cases (motive := fun r => DInv cap r.2) cap st s p (fun _ => h) (fun _ _ => h) fun _ hl => ⟨?_, ?_⟩
  · simp [Dir.pending, ← h.conserve]
  · exact List.length_append ▸ hl

theorem read_dinv {cap : Nat} {s : Dir} (st : Bool) (n : Nat) (h : DInv cap s) : DInv cap (s.read st n).2 :=
  ⟨by rw [(read_ghost st s n).1, (read_ghost st s n).2, List.append_assoc, read_pending, h.conserve],
   Nat.le_trans (read_chan_le st s n) h.room⟩

theorem readLoop_zero (st : Bool) (fuel : Nat) (mb : Bool) (ch : List Bytes) (bb acc : Bytes) :
    readLoop st fuel 0 mb ch bb acc = (acc, .nil, ch, bb) := by
  cases fuel <;> rfl

/-- after the buffer `b` has been taken (c.bb = b) and copied from: the rest of the loop -/
theorem readLoop_after_take (st : Bool) (f n : Nat) (b : Bytes) (rest : List Bytes) (acc : Bytes) (hn : 0 < n)
    (hf : rest.length + 1 ≤ f) :
    readLoop st f (n - min n b.length) false rest (b.drop n) (acc ++ b.take n)
      = (acc ++ (readMore n (b :: rest)).1, .nil, (readMore n (b :: rest)).2.1, (readMore n (b :: rest)).2.2) := by
  induction f generalizing n b rest acc with
  | zero => omega
  | succ f ih =>
    rw [readMore, if_neg (Nat.ne_of_gt hn)]
    by_cases h1 : n ≤ b.length
    · rw [if_pos h1, Nat.min_eq_left h1, Nat.sub_self, readLoop_zero]
    · -- all of `b` is copied; the loop goes on to the next buffer without blocking
      rw [if_neg h1, Nat.min_eq_right (by omega), List.drop_eq_nil_of_le (by omega), List.take_of_length_le (by omega)]
      cases rest with
      | nil => rw [readLoop, if_neg (by omega), if_pos rfl]; simp [readMore]
      | cons c rest =>
        rw [readLoop, if_neg (by omega), if_pos rfl, ih _ _ _ _ (by omega) (by simpa using hf), List.append_assoc]

theorem readViaLoop_eq (st : Bool) (s : Dir) (n : Nat) : s.readViaLoop st n = s.read st n := by
  obtain ⟨chan, bb, written, readAcc⟩ := s
  unfold Dir.readViaLoop Dir.read
  by_cases h0 : n = 0
  · subst h0; simp [readLoop_zero]
  · have hn : 0 < n := by omega
    cases bb with
    | nil =>
      cases chan with
      | nil => cases st <;> simp [h0, readLoop]
      | cons b rest =>
        have := readLoop_after_take st (n + rest.length + 1) n b rest [] hn (by omega)
        simp only [h0, if_false, if_true, List.length_cons, and_false, reduceCtorEq]
        rw [show n + (rest.length + 1) + 1 = (n + rest.length + 1) + 1 by omega, readLoop.eq_def]
        simp only [h0, if_false, if_true]
        rw [this]; simp
    | cons x bb =>
      have := readLoop_after_take st (n + chan.length) n (x :: bb) chan [] hn (by omega)
      simp only [h0, if_false, false_and, reduceCtorEq]
      rw [readLoop.eq_def]
      simp only [h0, if_false, reduceCtorEq]
      rw [this]; simp

theorem wdir_eq_rdir_other (s : Duplex) (e : End) : s.wdir e = s.rdir e.other := by cases e <;> rfl
theorem setW_eq_setR_other (s : Duplex) (e : End) (d : Dir) : s.setW e d = s.setR e.other d := by cases e <;> rfl
theorem setR_rdir (s : Duplex) (e e' : End) (d : Dir) : (s.setR e' d).rdir e = if e' = e then d else s.rdir e := by
  cases e <;> cases e' <;> rfl
theorem setR_stopped (s : Duplex) (e : End) (d : Dir) : (s.setR e d).stopped = s.stopped := by cases e <;> rfl
theorem setR_self (s : Duplex) (e : End) : s.setR e (s.rdir e) = s := by cases e <;> rfl
theorem other_other (e : End) : e.other.other = e := by cases e <;> rfl

/-! What an event does to the direction that end `e` reads from: a Write of the other end and a Read of `e` act on it,
nothing else touches it. -/

theorem step_write_rdir (cap : Nat) (s : Duplex) (e e' : End) (p : Bytes) :
    (step cap s (.write e' p)).2.rdir e = if e' = e.other then ((s.rdir e).write cap s.stopped p).2 else s.rdir e := by
  cases e <;> cases e' <;> rfl

theorem step_read_rdir (cap : Nat) (s : Duplex) (e e' : End) (n : Nat) :
    (step cap s (.read e' n)).2.rdir e = if e' = e then ((s.rdir e).read s.stopped n).2 else s.rdir e := by
  cases e <;> cases e' <;> rfl

theorem step_stopped (cap : Nat) (s : Duplex) (ev : Ev) : (step cap s ev).2.stopped = (s.stopped || ev == .close) := by
  cases ev with
  | write e p => simp [step, setW_eq_setR_other, setR_stopped]
  | read e n => simp [step, setR_stopped]
  | close => simp [step]

def DupInv (cap : Nat) (s : Duplex) : Prop := ∀ e, DInv cap (s.rdir e)

theorem dupInv_init (cap : Nat) : DupInv cap Duplex.init := fun e => by cases e <;> exact dinv_init cap

theorem dupInv_step {cap : Nat} {s : Duplex} (ev : Ev) (h : DupInv cap s) : DupInv cap (step cap s ev).2 := by
  intro e
  cases ev with
  | write e' p =>
    rw [step_write_rdir]
    split
    · exact write_dinv _ p (h e)
    · exact h e
  | read e' n =>
    rw [step_read_rdir]
    split
    · exact read_dinv _ n (h e)
    · exact h e
  | close => exact h e

theorem run_state (cap : Nat) (es : List Ev) : ∀ s : Duplex, (run cap s es).2 = es.foldl (fun s ev => (step cap s ev).2) s := by
  induction es with
  | nil => exact fun _ => rfl
  | cons e es ih => exact fun s => ih _

theorem dupInv_reach (cap : Nat) (es : List Ev) : DupInv cap (reach cap es) := by
  rw [reach, run_state]
  exact foldl_inv (fun _ ev => dupInv_step ev) es (dupInv_init cap)

theorem stopped_run {cap : Nat} (es : List Ev) {s : Duplex} (h : s.stopped = true) : (run cap s es).2.stopped = true :=
  run_state cap es s ▸ foldl_inv (P := fun s : Duplex => s.stopped = true) (fun s ev h => by rw [step_stopped, h]; rfl) es h

theorem write_ghost (cap : Nat) (st : Bool) (s : Dir) (e : End) (p : Bytes) :
    (s.write cap st p).2.written = s.written ++ wbytes e (.write e p, .w (s.write cap st p).1) ∧
    (s.write cap st p).2.readAcc = s.readAcc :=
  write_cases (motive := fun r => r.2.written = s.written ++ wbytes e (.write e p, .w r.1) ∧ r.2.readAcc = s.readAcc) cap st s p
    (fun _ => ⟨(List.append_nil _).symm, rfl⟩) (fun _ _ => ⟨(List.append_nil _).symm, rfl⟩)
    fun _ _ => ⟨congrArg (s.written ++ ·) (if_pos rfl).symm, rfl⟩

theorem wbytes_ne {e e' : End} (h : e' ≠ e) (p : Bytes) (r : WRes) : wbytes e (.write e' p, .w r) = [] := by
  cases r with
  | ok => exact if_neg h
  | _ => rfl

/-- the ghost fields are what an observer computes from the calls and their results -/
theorem ghost_step (cap : Nat) (s : Duplex) (e : End) (ev : Ev) :
    ((step cap s ev).2.rdir e).written = (s.rdir e).written ++ wbytes e.other (ev, (step cap s ev).1) ∧
    ((step cap s ev).2.rdir e).readAcc = (s.rdir e).readAcc ++ rbytes e (ev, (step cap s ev).1) := by
  have nil : ∀ l : Bytes, l = l ++ [] := fun l => (List.append_nil l).symm
  cases ev with
  | write e' p =>
    rw [step_write_rdir]
    by_cases he : e' = e.other
    · subst he
      have := write_ghost cap s.stopped (s.rdir e) e.other p
      rw [if_pos rfl, this.2]
      simp only [step, wdir_eq_rdir_other, other_other]
      exact ⟨this.1, nil _⟩
    · simp only [if_neg he, step, wbytes_ne he]
      exact ⟨nil _, nil _⟩
  | read e' n =>
    rw [step_read_rdir]
    by_cases he : e' = e
    · subst he
      rw [if_pos rfl, (read_ghost _ _ _).1, (read_ghost _ _ _).2]
      exact ⟨nil _, congrArg _ (if_pos rfl).symm⟩
    · rw [if_neg he]
      exact ⟨nil _, (nil _).trans (congrArg _ (if_neg he).symm)⟩
  | close => exact ⟨nil _, nil _⟩

theorem ghosts_run (cap : Nat) (e : End) (es : List Ev) : ∀ (s : Duplex),
    ((run cap s es).2.rdir e).written = (s.rdir e).written ++ writesOf e.other es (run cap s es).1 ∧
    ((run cap s es).2.rdir e).readAcc = (s.rdir e).readAcc ++ readsOf e es (run cap s es).1 := by
  induction es with
  | nil => exact fun s => ⟨(List.append_nil _).symm, (List.append_nil _).symm⟩
  | cons ev es ih =>
    intro s
    have h := ih (step cap s ev).2
    have g := ghost_step cap s e ev
    simp only [run, writesOf, readsOf, List.zip_cons_cons, List.map_cons, List.flatten_cons] at h ⊢
    rw [h.1, h.2, g.1, g.2, List.append_assoc, List.append_assoc]
    exact ⟨rfl, rfl⟩

theorem step_write_stopped (cap : Nat) (s : Duplex) (e : End) (p : Bytes) (h : s.stopped = true) :
    step cap s (.write e p) = (.w .closed, s) := by
  simp only [step, Dir.write, h, if_true, setW_eq_setR_other, wdir_eq_rdir_other, setR_self]

theorem step_close_stopped (cap : Nat) (s : Duplex) (h : s.stopped = true) : step cap s .close = (.c, s) := by
  cases s; cases h; rfl

/-- after Close the pipe behaves, for the reads of one end, like `readSeq` on that direction alone:
    writes fail without effect, reads of the other end and further Close calls do not touch it -/
theorem reads_after_close_frame (cap : Nat) (e : End) (es : List Ev) : ∀ (s : Duplex), s.stopped = true →
    readResults e es (run cap s es).1 = (readSeq true (s.rdir e) (readSizes e es)).1 ∧
    (run cap s es).2.rdir e = (readSeq true (s.rdir e) (readSizes e es)).2 := by
  induction es with
  | nil => exact fun _ _ => ⟨rfl, rfl⟩
  | cons ev es ih =>
    intro s hs
    have h := ih (step cap s ev).2 (by rw [step_stopped, hs]; rfl)
    simp only [run, readResults, readSizes, List.zip_cons_cons, List.filterMap_cons] at h ⊢
    cases ev with
    | write e' p => rw [step_write_stopped cap s e' p hs] at h ⊢; exact h
    | read e' n =>
      rw [step_read_rdir] at h
      by_cases he : e' = e
      · subst he
        simp only [step, rres, rsize, if_true, readSeq, hs] at h ⊢
        exact ⟨by rw [h.1], h.2⟩
      · simpa only [step, rres, rsize, if_neg he] using h
    | close => rw [step_close_stopped cap s hs] at h ⊢; exact h

theorem readSeq_all_eof (s : Dir) (hb : s.bb = []) (hc : s.chan = []) (ns : List Nat) (hpos : ∀ n ∈ ns, 0 < n) :
    ∀ r ∈ (readSeq true s ns).1, r = ⟨[], .eof⟩ := by
  induction ns with
  | nil => exact nofun
  | cons n ns ih =>
    simp only [readSeq, read_empty true s n (hpos n List.mem_cons_self) hb hc]
    exact List.forall_mem_cons.mpr ⟨rfl, ih fun m hm => hpos m (List.mem_cons_of_mem _ hm)⟩

theorem readSeq_drain (s : Dir) (ns : List Nat) (hpos : ∀ n ∈ ns, 0 < n) (hlen : s.measure < ns.length) :
    ∃ pre post, (readSeq true s ns).1 = pre ++ post ∧ pre.length ≤ s.measure ∧ post ≠ [] ∧
      (∀ r ∈ pre, r.err = .nil) ∧ (pre.map (·.data)).flatten = s.pending ∧ (∀ r ∈ post, r = ⟨[], .eof⟩) := by
  induction ns generalizing s with
  | nil => exact absurd hlen (Nat.not_lt_zero _)
  | cons n ns ih =>
    have hn : 0 < n := hpos n List.mem_cons_self
    by_cases hempty : s.bb = [] ∧ s.chan = []
    · -- nothing pending: EOF from the first read on
      refine ⟨[], _, rfl, Nat.zero_le _, List.cons_ne_nil _ _, nofun, ?_, readSeq_all_eof s hempty.1 hempty.2 _ hpos⟩
      simp [Dir.pending, hempty.1, hempty.2]
    · -- the first read succeeds and lowers the measure, so enough reads remain for the rest
      have ⟨herr, hlt⟩ := read_nonempty true s n hn hempty
      obtain ⟨pre, post, h1, h2, h3, h4, h5, h6⟩ :=
        ih (s.read true n).2 (fun k hk => hpos k (List.mem_cons_of_mem _ hk)) (by simp only [List.length_cons] at hlen; omega)
      refine ⟨(s.read true n).1 :: pre, post, by simp only [readSeq, h1, List.cons_append], ?_, h3,
        List.forall_mem_cons.mpr ⟨herr, h4⟩, ?_, h6⟩
      · simp only [List.length_cons]; omega
      · rw [List.map_cons, List.flatten_cons, h5, read_pending]

end Fh.Proofs.Pipe

/-! ## InmemoryListener -/
namespace Fh.Proofs.Pipe.Lsn
open Fh Fh.Model.Lsn

theorem upd_same {α : Type} (f : Nat → α) (i : Nat) (x : α) : upd f i x i = x := if_pos rfl
theorem upd_ne {α : Type} (f : Nat → α) {i j : Nat} (x : α) (h : j ≠ i) : upd f i x j = f j := if_neg h

theorem upd_forall {α : Type} {P : Nat → α → Prop} {f : Nat → α} {i : Nat} {x : α}
    (hf : ∀ j, j ≠ i → P j (f j)) (hx : P i x) (j : Nat) : P j (upd f i x j) := by
  unfold upd; split
  · next e => exact e ▸ hx
  · next e => exact hf j e

theorem upd_stable {α : Type} {f : Nat → α} {i : Nat} {x c : α} (h : f i = c → x = c) (j : Nat) (hj : f j = c) :
    upd f i x j = c :=
  upd_forall (P := fun j v => f j = c → v = c) (fun _ _ => id) h j hj

/-- Every enabled event is one of these updates of the tables or two in a row (`step_upd`).  Each carries the guard under
    which it keeps the invariant, in terms of the state alone, so that it can be read off the guard of the event. -/
inductive Upd (cap : Nat) : State → State → Prop
  | dial {s} (d : Did) (x : DStatus) : (x = .fresh ∨ x = .checked → s.dial d = .fresh ∨ s.dial d = .checked) →
      (x = .success → s.accFlag d = true) → (s.dial d = .failed → x = .failed) → Upd cap s { s with dial := upd s.dial d x }
  | enqueue {s} (d : Did) : s.dial d = .checked → s.queue.length < cap →
      Upd cap s { s with dial := upd s.dial d .queued, queue := s.queue ++ [d] }
  | lateD {s} (d : Did) : s.dial d = .failed → Upd cap s { s with lateD := upd s.lateD d true }
  | acc {s} (a : Aid) (y : AStatus) : s.acc a ≠ .failed → (∀ d, s.acc a ≠ .returned d) →
      (∀ d, y = .took d ∨ y = .returned d → s.acc a = .took d ∨ s.takenBy d = some a) →
      Upd cap s { s with acc := upd s.acc a y }
  | lateA {s} (a : Aid) : s.acc a = .failed → Upd cap s { s with lateA := upd s.lateA a true }
  | pop {s} (d : Did) (rest : List Did) : s.queue = d :: rest → Upd cap s { s with queue := rest }
  | take {s} (a : Aid) (d : Did) (rest : List Did) : s.queue = d :: rest →
      Upd cap s { s with queue := rest, takenBy := upd s.takenBy d (some a) }
  | flag {s} (a : Aid) (d : Did) : s.acc a = .returned d → Upd cap s { s with accFlag := upd s.accFlag d true }
  | close {s} : Upd cap s { s with closed := true }
  | refl {s} : Upd cap s s
  | trans {s t u} : Upd cap s t → Upd cap t u → Upd cap s u

theorem step_upd {cap : Nat} {s s' : State} {e : Event} (hs : step cap s e = some s') : Upd cap s s' := by
  cases e
  case dialLock d =>
    obtain ⟨hd, hs⟩ := Option.ite_none_right_eq_some.mp hs
    rcases of_ite hs with ⟨_, hs⟩ | ⟨_, hs⟩ <;> cases hs
    · exact .trans (.dial d .failed nofun nofun fun _ => rfl) (.lateD d (upd_same ..))
    · exact .dial d .checked (fun _ => .inl hd) nofun (hd ▸ nofun)
  case dialEnqueue d => obtain ⟨h, rfl⟩ := of_guard hs; exact .enqueue d h.1 h.2
  case dialAbort d => obtain ⟨_, rfl⟩ := of_guard hs; exact .dial d .failed nofun nofun fun _ => rfl
  case dialEnd d => obtain ⟨h, rfl⟩ := of_guard hs; exact .dial d .success nofun (fun _ => h.2) (h.1 ▸ nofun)
  case acceptBegin a =>
    obtain ⟨ha, hs⟩ := Option.ite_none_right_eq_some.mp hs
    rcases of_ite hs with ⟨_, hs⟩ | ⟨_, hs⟩ <;> cases hs
    · exact .trans (.acc a .failed (ha ▸ nofun) (fun _ => ha ▸ nofun) fun _ => nofun) (.lateA a (upd_same ..))
    · exact .acc a .started (ha ▸ nofun) (fun _ => ha ▸ nofun) fun _ => nofun
  case acceptTake a =>
    obtain ⟨ha, hs⟩ := Option.ite_none_right_eq_some.mp hs
    split at hs
    · next d rest hq =>
      rcases of_ite hs with ⟨_, hs⟩ | ⟨_, hs⟩ <;> cases hs
      · exact .trans (.pop d rest hq) (.acc a .failed (ha ▸ nofun) (fun _ => ha ▸ nofun) fun _ => nofun)
      · exact .trans (.take a d rest hq) (.acc a (.took d) (ha ▸ nofun) (fun _ => ha ▸ nofun)
          fun d' e => by rcases e with e | e <;> cases e; exact .inr (upd_same ..))
    · obtain ⟨_, rfl⟩ := of_guard hs
      exact .acc a .failed (ha ▸ nofun) (fun _ => ha ▸ nofun) fun _ => nofun
  case acceptAbort a =>
    obtain ⟨h, rfl⟩ := of_guard hs
    exact .acc a .failed (h.1 ▸ nofun) (fun _ => h.1 ▸ nofun) fun _ => nofun
  case acceptCommit a =>
    dsimp only [step] at hs
    split at hs <;> cases hs
    next d ha =>
    exact .trans (.acc a (.returned d) (ha ▸ nofun) (fun _ => ha ▸ nofun) fun d' e => by rcases e with e | e <;> cases e; exact .inl ha)
      (.flag a d (upd_same ..))
  case close => cases hs; exact .close
  case closeDrain =>
    obtain ⟨_, hs⟩ := Option.ite_none_right_eq_some.mp hs
    split at hs <;> cases hs
    next d rest hq => exact .pop d rest hq

/-- The ghost `takenBy d` names the one Accept that received dial `d`'s connection: nobody while the connection is not yet
    enqueued (`early`) or still in the queue (`qFree`), that Accept from then on (`own`) — so the Accept that returns `d` is
    unique.  `succ` and `flag` lead from a successful Dial back to such an Accept. -/
structure Inv (cap : Nat) (s : State) : Prop where
  qLen : s.queue.length ≤ cap
  qNodup : s.queue.Nodup
  qFree : ∀ d ∈ s.queue, s.takenBy d = none
  early : ∀ d, s.dial d = .fresh ∨ s.dial d = .checked → s.takenBy d = none ∧ d ∉ s.queue
  own : ∀ a d, s.acc a = .took d ∨ s.acc a = .returned d → s.takenBy d = some a
  flag : ∀ d, s.accFlag d = true → ∃ a, s.acc a = .returned d
  succ : ∀ d, s.dial d = .success → s.accFlag d = true
  lateD : ∀ d, s.lateD d = true → s.dial d = .failed
  lateA : ∀ a, s.lateA a = true → s.acc a = .failed

theorem inv_init (cap : Nat) : Inv cap init := by
  constructor <;> simp [init]

theorem Inv.dequeue {cap : Nat} {s : State} (h : Inv cap s) {d : Did} {rest : List Did} (hq : s.queue = d :: rest) :
    Inv cap { s with queue := rest } :=
  have sub : rest.Sublist s.queue := hq ▸ List.sublist_cons_self d rest
  { h with
    qLen := Nat.le_trans sub.length_le h.qLen
    qNodup := h.qNodup.sublist sub
    qFree := fun j hj => h.qFree j (sub.subset hj)
    early := fun j e => ⟨(h.early j e).1, fun hj => (h.early j e).2 (sub.subset hj)⟩ }

theorem inv_upd {cap : Nat} {s s' : State} (hu : Upd cap s s') : Inv cap s → Inv cap s' := by
  induction hu with
  | @dial s d x he hs hl =>
    exact fun h => { h with
      early := upd_forall (P := fun j (v : DStatus) => v = .fresh ∨ v = .checked → s.takenBy j = none ∧ j ∉ s.queue)
        (fun j _ => h.early j) fun e => h.early d (he e)
      succ := upd_forall (P := fun j (v : DStatus) => v = .success → s.accFlag j = true) (fun j _ => h.succ j) hs
      lateD := fun j e => upd_stable hl j (h.lateD j e) }
  | @enqueue s d hd hl =>
    intro h
    have ⟨ht, hn⟩ := h.early d (.inr hd)
    exact { h with
      qLen := List.length_append ▸ hl
      qNodup := List.nodup_append.mpr
        ⟨h.qNodup, List.pairwise_singleton _ d, fun _ hx _ hy e => hn (List.mem_singleton.mp hy ▸ e ▸ hx)⟩
      qFree := fun j hj => (List.mem_append.mp hj).elim (h.qFree j) fun e => List.mem_singleton.mp e ▸ ht
      early := upd_forall (P := fun j (v : DStatus) => v = .fresh ∨ v = .checked → s.takenBy j = none ∧ j ∉ s.queue ++ [d])
        (fun j hj e => ⟨(h.early j e).1, fun hm => (List.mem_append.mp hm).elim (h.early j e).2 (hj ∘ List.mem_singleton.mp)⟩)
        nofun
      succ := upd_forall (P := fun j (v : DStatus) => v = .success → s.accFlag j = true) (fun j _ => h.succ j) nofun
      lateD := fun j e => upd_stable (hd ▸ nofun) j (h.lateD j e) }
  | @lateD s d hd =>
    exact fun h => { h with
      lateD := upd_forall (P := fun j v => v = true → s.dial j = .failed) (fun j _ => h.lateD j) fun _ => hd }
  | @acc s a y hl hnr ho =>
    exact fun h => { h with
      own := upd_forall (P := fun j (v : AStatus) => ∀ d, v = .took d ∨ v = .returned d → s.takenBy d = some j)
        (fun j _ => h.own j) fun d e => (ho d e).elim (fun e' => h.own a d (.inl e')) id
      flag := fun d hd => (h.flag d hd).imp fun a' ha' => (upd_ne _ _ fun (e : a' = a) => hnr d (e ▸ ha')).trans ha'
      lateA := fun j e => upd_stable (absurd · hl) j (h.lateA j e) }
  | @lateA s a ha =>
    exact fun h => { h with
      lateA := upd_forall (P := fun j v => v = true → s.acc j = .failed) (fun j _ => h.lateA j) fun _ => ha }
  | pop d rest hq => exact fun h => h.dequeue hq
  | @take s a d rest hq =>
    intro h
    have hd : d ∈ s.queue := hq ▸ List.mem_cons_self
    -- `d` leaves the queue, where nobody had taken it, and does not occur in it a second time
    exact { h.dequeue hq with
      qFree := fun j hj => (upd_ne _ _ fun (e : j = d) => (List.nodup_cons.mp (hq ▸ h.qNodup)).1 (e ▸ hj)).trans
        ((h.dequeue hq).qFree j hj)
      early := upd_forall (P := fun j v => s.dial j = .fresh ∨ s.dial j = .checked → v = none ∧ j ∉ rest)
        (fun j _ => (h.dequeue hq).early j) fun e => absurd hd (h.early d e).2
      own := fun a' => upd_forall (P := fun j v => s.acc a' = .took j ∨ s.acc a' = .returned j → v = some a')
        (fun j _ => h.own a' j) fun e => nomatch (h.qFree d hd).symm.trans (h.own a' d e) }
  | @flag s a d ha =>
    exact fun h => { h with
      flag := upd_forall (P := fun j v => v = true → ∃ a, s.acc a = .returned j) (fun j _ => h.flag j) fun _ => ⟨a, ha⟩
      succ := upd_forall (P := fun j v => s.dial j = .success → v = true) (fun j _ => h.succ j) fun _ => rfl }
  | close => exact fun h => { h with }
  | refl => exact id
  | trans _ _ ih1 ih2 => exact ih2 ∘ ih1

theorem run_eq_iter (cap : Nat) (s : State) (es : List Event) : run cap s es = iter (step cap) s es := by
  induction es generalizing s with
  | nil => rfl
  | cons e es ih => simp only [run, iter, ih]

theorem run_upd {cap : Nat} (es : List Event) {s s' : State} (hr : run cap s es = some s') : Upd cap s s' :=
  Iter.rel (R := Upd cap) (fun _ => .refl) (fun _ _ _ => .trans) (fun _ _ _ => step_upd) (run_eq_iter cap s es ▸ hr)

theorem inv_run {cap : Nat} (es : List Event) {s s' : State} (h : Inv cap s) (hr : run cap s es = some s') : Inv cap s' :=
  inv_upd (run_upd es hr) h

def Stable (s s' : State) : Prop :=
  (s.closed = true → s'.closed = true) ∧ (∀ d, s.dial d = .failed → s'.dial d = .failed) ∧
    (∀ a, s.acc a = .failed → s'.acc a = .failed)

theorem stable_upd {cap : Nat} {s s' : State} (hu : Upd cap s s') : Stable s s' := by
  induction hu with
  | dial d x _ _ hl => exact ⟨id, upd_stable hl, fun _ => id⟩
  | enqueue d hd => exact ⟨id, upd_stable (hd ▸ nofun), fun _ => id⟩
  | acc a y hl => exact ⟨id, fun _ => id, upd_stable (absurd · hl)⟩
  | close => exact ⟨fun _ => rfl, fun _ => id, fun _ => id⟩
  | lateD | lateA | pop | take | flag | refl => exact ⟨id, fun _ => id, fun _ => id⟩
  | trans _ _ h g => exact ⟨g.1 ∘ h.1, fun d => g.2.1 d ∘ h.2.1 d, fun a => g.2.2 a ∘ h.2.2 a⟩

theorem stable_run {cap : Nat} (es : List Event) {s s' : State} (hr : run cap s es = some s') : Stable s s' :=
  stable_upd (run_upd es hr)

theorem run_append {cap : Nat} (es1 es2 : List Event) : ∀ (s : State),
    run cap s (es1 ++ es2) = (run cap s es1).bind (fun s1 => run cap s1 es2) := by
  intro s
  simp only [run_eq_iter]
  exact Iter.iter_append s es1 es2

end Fh.Proofs.Pipe.Lsn
