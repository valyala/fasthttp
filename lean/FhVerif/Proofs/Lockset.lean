/-
Proof of the generic lockset theorem (C37): under mutual exclusion, lock-disciplined conflicting accesses by different
threads are ordered by a release→acquire edge on the field's lock (`order`).  The edge is found at the first step of the
run after which the first thread no longer holds the lock, and the first after which the second does (`run_first`);
`lose` and `gain` say which event such a step is.
-/
import FhVerif.Model.Lockset
import FhVerif.Base.Run

namespace Fh.Proofs.Lockset
open Fh.Model.Lockset

theorem stepL_cases {l : Lock} {s s1 : LS} {e : Ev} (h : stepL l s e = some s1) :
    s1 = s ∨
    (∃ t, e = .acq l t ∧ s.writer = none ∧ s.readers = [] ∧ s1 = { s with writer := some t }) ∨
    (∃ t, e = .rel l t ∧ s.writer = some t ∧ s1 = { s with writer := none }) ∨
    (∃ t, e = .racq l t ∧ s.writer = none ∧ s1 = { s with readers := t :: s.readers }) ∨
    (∃ t, e = .rrel l t ∧ t ∈ s.readers ∧ s1 = { s with readers := s.readers.erase t }) := by
  cases e <;> simp only [stepL] at h
  case acc => cases h; exact .inl rfl
  all_goals
    split at h
    case isFalse => cases h; exact .inl rfl
    rename_i t hl; subst hl
    split at h
    case isFalse => cases h
    rename_i hg; cases h
  · exact .inr (.inl ⟨t, rfl, hg.1, hg.2, rfl⟩)
  · exact .inr (.inr (.inl ⟨t, rfl, hg, rfl⟩))
  · exact .inr (.inr (.inr (.inl ⟨t, rfl, hg, rfl⟩)))
  · exact .inr (.inr (.inr (.inr ⟨t, rfl, hg, rfl⟩)))

/-- a write lock excludes readers -/
def Inv (s : LS) : Prop := s.writer ≠ none → s.readers = []

theorem inv_init : Inv {} := fun h => absurd rfl h

theorem Inv.readers_nil {s : LS} {t : Tid} (hi : Inv s) (hw : s.writer = some t) : s.readers = [] :=
  hi (by rw [hw]; nofun)

theorem inv_step (l : Lock) (s s1 : LS) (e : Ev) (hi : Inv s) (h : stepL l s e = some s1) : Inv s1 := by
  rcases stepL_cases h with rfl | ⟨t, _, _, hr, rfl⟩ | ⟨t, _, _, rfl⟩ | ⟨t, _, hw, rfl⟩ | ⟨t, _, hm, rfl⟩
  · exact hi
  · exact fun _ => hr
  · exact fun h => absurd rfl h
  · exact fun h => absurd hw h
  · exact fun h => by rw [hi h] at hm; cases hm

theorem runL_eq_iter (l : Lock) (s : LS) (tr : List Ev) : runL l s tr = iter (stepL l) s tr := by
  induction tr generalizing s with
  | nil => rfl
  | cons e es ih => rw [runL, Iter.iter_cons]; cases stepL l s e <;> simp [ih]

theorem inv_run (l : Lock) (tr : List Ev) (s s' : LS) (hi : Inv s) (h : runL l s tr = some s') : Inv s' :=
  Iter.inv (fun s e s1 => inv_step l s s1 e) hi (runL_eq_iter l s tr ▸ h)

theorem run_append (l : Lock) (a b : List Ev) (s : LS) :
    runL l s (a ++ b) = (runL l s a).bind (fun s' => runL l s' b) := by
  simp only [runL_eq_iter]; exact Iter.iter_append s a b

/-- what fails before a run and holds after it starts to hold at one of its steps -/
theorem run_first {l : Lock} {P : LS → Prop} {mid : List Ev} {s s' : LS} (h : runL l s mid = some s') (hn : ¬ P s) (hp : P s') :
    ∃ m1 e m3 a b, mid = m1 ++ e :: m3 ∧ runL l s m1 = some a ∧ stepL l a e = some b ∧ runL l b m3 = some s' ∧ ¬ P a ∧ P b := by
  fun_induction runL l s mid with
  | case1 => cases h; exact absurd hp hn
  | case2 s e rest s1 hs ih =>
    by_cases h1 : P s1
    · exact ⟨[], e, rest, s, s1, rfl, rfl, hs, h, hn, h1⟩
    · obtain ⟨m1, e', m3, a, b, hm, hr, hrest⟩ := ih h h1
      exact ⟨e :: m1, e', m3, a, b, by rw [hm]; rfl, by rw [runL, hs]; exact hr, hrest⟩
  | case3 => cases h

theorem holds_iff {s : LS} {t : Tid} {w : Bool} : Holds s t w ↔ s.writer = some t ∨ (w = false ∧ t ∈ s.readers) := by
  cases w <;> simp [Holds]

def Has (s : LS) (t1 : Tid) : Prop := s.writer = some t1 ∨ t1 ∈ s.readers

/-- mutual exclusion as a fact about one state: two threads hold the lock together only if both read -/
theorem excl {s : LS} {t1 t2 : Tid} {w1 w2 : Bool} (hi : Inv s) (hne : t1 ≠ t2) (hc : w1 = true ∨ w2 = true)
    (h1 : Holds s t1 w1) : ¬ Holds s t2 w2 := by
  intro h2
  rw [holds_iff] at h1 h2
  rcases h1 with h1 | ⟨rfl, h1⟩ <;> rcases h2 with h2 | ⟨rfl, h2⟩
  · exact hne (Option.some.inj (h1.symm.trans h2))
  · rw [hi.readers_nil h1] at h2; cases h2
  · rw [hi.readers_nil h2] at h1; cases h1
  · rcases hc with h | h <;> cases h

/-- a thread comes to hold the lock only by its own acquisition, exclusively only by its `Lock()` -/
theorem gain {l : Lock} {a b : LS} {e : Ev} {t : Tid} {w : Bool} (h : stepL l a e = some b)
    (ha : ¬ Holds a t w) (hb : Holds b t w) : e = .acq l t ∨ (w = false ∧ e = .racq l t) := by
  rw [holds_iff] at ha hb
  rcases stepL_cases h with rfl | ⟨t0, rfl, _, _, rfl⟩ | ⟨t0, rfl, _, rfl⟩ | ⟨t0, rfl, _, rfl⟩ | ⟨t0, rfl, _, rfl⟩
  · exact absurd hb ha
  · rcases hb with hb | hb
    · cases hb; exact .inl rfl
    · exact absurd (.inr hb) ha
  · rcases hb with hb | hb
    · cases hb
    · exact absurd (.inr hb) ha
  · rcases hb with hb | ⟨hw, hb⟩
    · exact absurd (.inl hb) ha
    · rcases List.mem_cons.mp hb with rfl | hb
      · exact .inr ⟨hw, rfl⟩
      · exact absurd (.inr ⟨hw, hb⟩) ha
  · exact absurd (hb.imp_right (And.imp_right List.mem_of_mem_erase)) ha

/-- a thread stops holding the lock only by its own release -/
theorem lose {l : Lock} {a b : LS} {e : Ev} {t : Tid} {w : Bool} (h : stepL l a e = some b)
    (ha : Holds a t w) (hb : ¬ Holds b t w) : isRelease l t e := by
  rw [holds_iff] at ha hb
  rcases stepL_cases h with rfl | ⟨t0, rfl, hw0, hr0, rfl⟩ | ⟨t0, rfl, hw0, rfl⟩ | ⟨t0, rfl, _, rfl⟩ | ⟨t0, rfl, _, rfl⟩
  · exact absurd ha hb
  · rw [hw0, hr0] at ha
    rcases ha with ha | ⟨_, ha⟩ <;> cases ha
  · rcases ha with ha | ha
    · cases hw0.symm.trans ha; exact .inl rfl
    · exact absurd (.inr ha) hb
  · exact absurd (ha.imp_right (And.imp_right (List.mem_cons_of_mem _))) hb
  · rcases ha with ha | ⟨hw, ha⟩
    · exact absurd (.inl ha) hb
    · by_cases ht : t = t0
      · exact .inr (ht ▸ rfl)
      · exact absurd (.inr ⟨hw, (List.mem_erase_of_ne ht).mpr ha⟩) hb

/-- Two threads that hold the lock one after the other, at least one of them exclusively: the first releases it and
    after that the second acquires it. -/
theorem order {l : Lock} {t1 t2 : Tid} {w1 w2 : Bool} (hne : t1 ≠ t2) (hc : w1 = true ∨ w2 = true) {mid : List Ev}
    {s s' : LS} (hi : Inv s) (h1 : Holds s t1 w1) (h : runL l s mid = some s') (h2 : Holds s' t2 w2) :
    ∃ m1 e1 m2 e2 m3, mid = m1 ++ e1 :: (m2 ++ e2 :: m3) ∧ isRelease l t1 e1 ∧
      (e2 = .acq l t2 ∨ (w2 = false ∧ e2 = .racq l t2)) := by
  have hp : ¬ Holds s' t1 w1 := excl (inv_run l mid s s' hi h) hne.symm hc.symm h2
  obtain ⟨m1, e1, r, a, b, hm, hra, hs, hrb, ha, hb⟩ := run_first (P := fun x => ¬ Holds x t1 w1) h (fun hn => hn h1) hp
  have ha : Holds a t1 w1 := Classical.not_not.mp ha
  have hrel := lose hs ha hb
  -- `t2` does not hold before that step; the first step after which it does is an acquisition, so a later one
  obtain ⟨n1, e2, m3, a', b', hn, _, hs', _, ha', hb'⟩ := run_first (P := fun x => Holds x t2 w2)
    (show runL l a (e1 :: r) = some s' by rw [runL, hs]; exact hrb) (excl (inv_run l m1 s a hi hra) hne hc ha) h2
  have hacq := gain hs' ha' hb'
  cases n1 with
  | nil =>
    cases hn
    rcases hrel with rfl | rfl <;> rcases hacq with h | ⟨_, h⟩ <;> cases h
  | cons _ m2 => cases hn; exact ⟨m1, _, m2, e2, m3, hm, hrel, hacq⟩

theorem order_to_writer (l : Lock) (t1 t2 : Tid) (hne : t1 ≠ t2) (mid : List Ev) :
    ∀ (s s' : LS), Inv s → Has s t1 → runL l s mid = some s' → s'.writer = some t2 →
      ∃ m1 e1 m2 m3, mid = m1 ++ e1 :: m2 ++ Ev.acq l t2 :: m3 ∧ isRelease l t1 e1 := by
  intro s s' hi hh h hw
  obtain ⟨m1, e1, m2, e2, m3, hm, hr, rfl | ⟨hf, _⟩⟩ := order (w1 := false) (w2 := true) hne (.inr rfl) hi hh h hw
  · exact ⟨m1, e1, m2, m3, by rw [hm, List.append_assoc]; rfl, hr⟩
  · cases hf

end Fh.Proofs.Lockset
