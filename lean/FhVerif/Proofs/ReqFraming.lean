/-
fasthttp's framing decision (Model.parseDecision) against RFC 9112 §6.3 (Spec.Rfc.framingOf): the header loop keeps
the RFC's view of the fields read so far down to at most one Content-Length and at most one Transfer-Encoding
(`Inv`), and on such field lists the RFC's decision is a four-way case split (`framingOf_shape`).
-/
import FhVerif.Model.ReqFraming
import FhVerif.Spec.Rfc9112
import FhVerif.Props.C30
import FhVerif.Proofs.ByteClass

namespace Fh.Proofs.ReqFraming
open Fh Fh.Model Fh.Spec.Rfc Fh.Proofs.ByteClass

/-! `ciEq` compares bytes under `||| 32`; against a name or token that is comparison of the lower-cased strings. -/

def isLowerOrDash (b : UInt8) : Bool := (97 ≤ b && b ≤ 122) || b == 45

/-- `||| 32` agrees with `lower` wherever either lands on a lower-case letter or `-`, but for CR: `13 ||| 32 = '-'` -/
theorem or32_lower (a : UInt8) :
    (isLowerOrDash (a ||| 32) = true → lower a = a ||| 32 ∨ a = 13) ∧
    (isLowerOrDash (lower a) = true → a ||| 32 = lower a) ∧ (lower a = 45 → a = 45) := by
  revert a
  exact forall_byte (by decide +kernel)

theorem or32 (a b : UInt8) (hb : isLowerOrDash (lower b) = true) (h : a ≠ 13 ∨ b ≠ 45) :
    ((a ||| 32) == (b ||| 32)) = (lower a == lower b) := by
  obtain ⟨hA, hA', -⟩ := or32_lower a
  obtain ⟨-, hB, h45⟩ := or32_lower b
  rw [hB hb, Bool.eq_iff_iff, beq_iff_eq, beq_iff_eq]
  refine ⟨fun e => ?_, fun e => e ▸ hA' (e ▸ hb)⟩
  rcases hA (e ▸ hb) with e2 | rfl
  · exact e2 ▸ e
  · exact absurd (h45 e.symm) (h.resolve_left (· rfl))

theorem ciEq_eq_lower (c : Bytes) (hc : ∀ b ∈ c, isLowerOrDash (lower b) = true) (k : Bytes)
    (h : (∀ x ∈ k, x ≠ 13) ∨ ∀ b ∈ c, b ≠ 45) : ciEq k c = (lowerB k == lowerB c) := by
  induction c generalizing k with
  | nil => cases k <;> rfl
  | cons b bs ih =>
    cases k with
    | nil => rfl
    | cons a as =>
      rw [List.forall_mem_cons] at hc
      simp only [List.forall_mem_cons] at h
      rw [ciEq, or32 a b hc.1 (h.imp (·.1) (·.1)), ih hc.2 as (h.imp (·.2) (·.2))]
      rfl

abbrev clN : Bytes := ofString "content-length"
abbrev teN : Bytes := ofString "transfer-encoding"
abbrev chunkedB : Bytes := ofString "chunked"
abbrev identityB : Bytes := ofString "identity"

theorem ciEq_cl (k : Bytes) (hk : ∀ x ∈ k, x ≠ 13) : ciEq k strContentLength = (lowerB k == clN) := by
  rw [ciEq_eq_lower _ (by decide +kernel) k (.inl hk), show lowerB strContentLength = clN by decide +kernel]

theorem ciEq_te (k : Bytes) (hk : ∀ x ∈ k, x ≠ 13) : ciEq k strTransferEncoding = (lowerB k == teN) := by
  rw [ciEq_eq_lower _ (by decide +kernel) k (.inl hk), show lowerB strTransferEncoding = teN by decide +kernel]

/-- a token without dash: no CR can match, so the value is unrestricted -/
theorem ciEq_chunked (v : Bytes) : ciEq v strChunked = (lowerB v == chunkedB) := by
  rw [ciEq_eq_lower _ (by decide +kernel) v (.inr (by decide +kernel)), show lowerB strChunked = chunkedB by decide +kernel]

theorem ciEq_identity (v : Bytes) : ciEq v strIdentity = (lowerB v == identityB) := by
  rw [ciEq_eq_lower _ (by decide +kernel) v (.inr (by decide +kernel)), show lowerB strIdentity = identityB by decide +kernel]

/-! What `stepField` does with a field whose value is valid, by the name of the field. -/
section
variable (noH11 : Bool) (st : PState) {k v : Bytes} (hv : v.all validHeaderValueByte = true)
include hv

theorem stepField_cl (hk : ciEq k strContentLength = true) :
    stepField noH11 st k v = if st.clSeen then none else (parseContentLength v).map fun n =>
      { st with clSeen := true, contentLength := if st.contentLength != -1 then n else st.contentLength } := by
  simp only [stepField, hv, hk, Bool.not_true, Bool.false_eq_true, if_false, if_true]
  cases parseContentLength v <;> rfl

theorem stepField_te (h1 : ciEq k strContentLength = false) (hk : ciEq k strTransferEncoding = true) :
    stepField noH11 st k v = if noH11 then none else if st.teSeen then none
      else if !ciEq v strIdentity && !ciEq v strChunked then none
      else some { st with teSeen := true, contentLength := if ciEq v strChunked then -1 else st.contentLength } := by
  simp only [stepField, hv, h1, hk, Bool.not_true, Bool.false_eq_true, if_false, if_true]

theorem stepField_host (h1 : ciEq k strContentLength = false) (h2 : ciEq k strTransferEncoding = false)
    (hk : ciEq k strHostB = true) :
    stepField noH11 st k v = if st.hostSeen then none else some { st with hostSeen := true, host := v } := by
  simp only [stepField, hv, h1, h2, hk, Bool.not_true, Bool.false_eq_true, if_false, if_true]

theorem stepField_conn (h1 : ciEq k strContentLength = false) (h2 : ciEq k strTransferEncoding = false)
    (h3 : ciEq k strHostB = false) (hk : ciEq k strConnectionB = true) :
    stepField noH11 st k v = if v == strClose then some { st with connClose := true }
      else some { st with connClose := st.connClose || hasHeaderValue v strClose,
                          connValue := st.connValue.orElse fun _ => some v } := by
  simp only [stepField, hv, h1, h2, h3, hk, Bool.not_true, Bool.false_eq_true, if_false, if_true]

theorem stepField_other (h1 : ciEq k strContentLength = false) (h2 : ciEq k strTransferEncoding = false)
    (h3 : ciEq k strHostB = false) (h4 : ciEq k strConnectionB = false) : stepField noH11 st k v = some st := by
  simp only [stepField, hv, h1, h2, h3, h4, Bool.not_true, Bool.false_eq_true, if_false]

end

theorem stepField_valid {noH11 : Bool} {st st' : PState} {k v : Bytes} (h : stepField noH11 st k v = some st') :
    v.all validHeaderValueByte = true := by
  cases hv : v.all validHeaderValueByte with
  | true => rfl
  | false => simp [stepField, hv] at h

theorem stepField_frame {noH11 : Bool} {st st' : PState} {k v : Bytes} (h1 : ciEq k strContentLength = false)
    (h2 : ciEq k strTransferEncoding = false) (h : stepField noH11 st k v = some st') :
    st'.clSeen = st.clSeen ∧ st'.teSeen = st.teSeen ∧ st'.contentLength = st.contentLength := by
  have hv := stepField_valid h
  cases h3 : ciEq k strHostB with
  | true =>
    rw [stepField_host noH11 st hv h1 h2 h3] at h
    split at h
    · cases h
    · cases h
      exact ⟨rfl, rfl, rfl⟩
  | false =>
    cases h4 : ciEq k strConnectionB with
    | true =>
      rw [stepField_conn noH11 st hv h1 h2 h3 h4] at h
      split at h <;> cases h <;> exact ⟨rfl, rfl, rfl⟩
    | false =>
      cases (stepField_other noH11 st hv h1 h2 h3 h4).symm.trans h
      exact ⟨rfl, rfl, rfl⟩

theorem fieldsNamed_snoc (p : List (Bytes × Bytes)) (k v n : Bytes) (hv : trimWs v = v) :
    fieldsNamed (p ++ [(k, v)]) n = fieldsNamed p n ++ if lowerB k == n then [v] else [] := by
  by_cases h : lowerB k == n <;> simp [fieldsNamed, List.filter_append, h, hv]

/-- fasthttp's contentLength code for at most one Content-Length value `c` and Transfer-Encoding value `t` -/
def clCode (c t : Option Bytes) : Int :=
  if t.any (lowerB · == chunkedB) then -1
  else match c with
    | some v => (natOfDigits v : Int)
    | none => -2

/-- While `loopFields` has not rejected, the fields `p` read so far hold at most one Content-Length `c` (digits)
and at most one Transfer-Encoding `t` (`identity` or `chunked`, HTTP/1.1 only), and the state records them. -/
structure Inv (noH11 : Bool) (st : PState) (p : List (Bytes × Bytes)) (c t : Option Bytes) : Prop where
  cls : fieldsNamed p clN = c.toList
  tes : fieldsNamed p teN = t.toList
  clSeen : st.clSeen = c.isSome
  teSeen : st.teSeen = t.isSome
  clVal : ∀ v ∈ c, v ≠ [] ∧ v.all isDigit = true
  teVal : ∀ x ∈ t, noH11 = false ∧ (lowerB x = identityB ∨ lowerB x = chunkedB)
  code : st.contentLength = clCode c t

theorem isDigitB_eq : Spec.isDigitB = isDigit := by
  funext c
  simp [Spec.isDigitB, isDigit, UInt8.le_iff_toNat_le, Bool.decide_and]

/-- header.go parseContentLength is ParseUint with the error dropped -/
theorem parseContentLength_eq (v : Bytes) : parseContentLength v = (parseUint 64 v).toOption := by
  unfold parseContentLength parseUint
  generalize parseUintBuf 64 v = r
  by_cases h : r.n ≠ v.length
  · simp only [if_pos h]; cases r.err <;> rfl
  · simp only [if_neg h]; cases r.err <;> rfl

theorem parseContentLength_some (v : Bytes) (n : Int) (h : parseContentLength v = some n) :
    v ≠ [] ∧ v.all isDigit = true ∧ n = (natOfDigits v : Int) := by
  rw [parseContentLength_eq, Props.C30.parseUint_eq_spec 64 (.inl rfl), Spec.parseUintSpec] at h
  split at h
  · rename_i hc
    cases h
    exact ⟨hc.1, isDigitB_eq ▸ hc.2.1, rfl⟩
  · cases h

theorem step_inv {noH11 : Bool} {st st' : PState} {p : List (Bytes × Bytes)} {c t : Option Bytes} {k v : Bytes}
    (hinv : Inv noH11 st p c t) (hk : ∀ x ∈ k, x ≠ 13) (hv : trimWs v = v)
    (hstep : stepField noH11 st k v = some st') : ∃ c' t', Inv noH11 st' (p ++ [(k, v)]) c' t' := by
  have hval := stepField_valid hstep
  have hsn (n : Bytes) := fieldsNamed_snoc p k v n hv
  have hcl := ciEq_cl k hk
  have hte := ciEq_te k hk
  cases b1 : lowerB k == clN with
  | true =>
    -- accepted: no Content-Length seen before, and the value parses
    rw [stepField_cl noH11 st hval (hcl.trans b1)] at hstep
    simp only [Option.ite_none_left_eq_some, hinv.clSeen, Option.not_isSome_iff_eq_none, Option.map_eq_some_iff] at hstep
    obtain ⟨rfl, n, hn, rfl⟩ := hstep
    obtain ⟨v1, v2, rfl⟩ := parseContentLength_some v n hn
    have b2 : (lowerB k == teN) = false := by
      rw [eq_of_beq b1]
      decide +kernel
    refine ⟨some v, t, ?_, ?_, rfl, hinv.teSeen, fun | _, rfl => ⟨v1, v2⟩, hinv.teVal, ?_⟩
    · simp [hsn, hinv.cls, b1]
    · simp [hsn, hinv.tes, b2]
    · rw [hinv.code]
      simp only [clCode]
      cases t.any (lowerB · == chunkedB) <;> rfl
  | false =>
    cases b2 : lowerB k == teN with
    | true =>
      -- accepted: HTTP/1.1, no Transfer-Encoding seen before, and the value is one of the two codings
      rw [stepField_te noH11 st hval (hcl.trans b1) (hte.trans b2)] at hstep
      simp only [Option.ite_none_left_eq_some, hinv.teSeen, Option.not_isSome_iff_eq_none, Option.some.injEq,
        ciEq_identity, ciEq_chunked] at hstep
      obtain ⟨h11, rfl, hid, rfl⟩ := hstep
      refine ⟨c, some v, ?_, ?_, hinv.clSeen, rfl, hinv.clVal, fun | _, rfl => ⟨Bool.eq_false_iff.2 h11, ?_⟩, ?_⟩
      · simp [hsn, hinv.cls, b1]
      · simp [hsn, hinv.tes, b2]
      · simpa [Classical.or_iff_not_imp_left] using hid
      · rw [hinv.code]
        rfl
    | false =>
      obtain ⟨e1, e2, e3⟩ := stepField_frame (hcl ▸ b1) (hte ▸ b2) hstep
      refine ⟨c, t, ?_, ?_, e1 ▸ hinv.clSeen, e2 ▸ hinv.teSeen, hinv.clVal, hinv.teVal, e3 ▸ hinv.code⟩
      · simp [hsn, hinv.cls, b1]
      · simp [hsn, hinv.tes, b2]

theorem loop_inv {noH11 : Bool} (rest : List (Bytes × Bytes)) {st st' : PState} {p : List (Bytes × Bytes)}
    {c t : Option Bytes} (hinv : Inv noH11 st p c t) (hs : ∀ f ∈ rest, (∀ x ∈ f.1, x ≠ 13) ∧ trimWs f.2 = f.2)
    (h : loopFields noH11 st rest = some st') : ∃ c' t', Inv noH11 st' (p ++ rest) c' t' := by
  induction rest generalizing st p c t with
  | nil => cases h; exact ⟨c, t, by rwa [List.append_nil]⟩
  | cons f rest ih =>
    rw [List.forall_mem_cons] at hs
    rw [loopFields] at h
    split at h
    · cases h
    · rename_i st1 hs1
      obtain ⟨c1, t1, h1⟩ := step_inv hinv hs.1.1 hs.1.2 hs1
      rw [List.append_cons]
      exact ih h1 hs.2 h

theorem inv_init (noH11 : Bool) : Inv noH11 {} [] none none :=
  ⟨rfl, rfl, rfl, rfl, nofun, nofun, rfl⟩

theorem splitOnByte_none (sep : UInt8) (v : Bytes) (h : ∀ x ∈ v, x ≠ sep) : splitOnByte sep v = [v] := by
  induction v with
  | nil => rfl
  | cons c t ih =>
    rw [List.forall_mem_cons] at h
    rw [splitOnByte, if_neg (by simpa using h.1), ih h.2]

theorem dropWhile_none {p : UInt8 → Bool} (v : Bytes) (h : ∀ x ∈ v, p x = false) : v.dropWhile p = v := by
  cases v with
  | nil => rfl
  | cons c t => rw [List.dropWhile_cons, h c (List.mem_cons_self ..)]; rfl

theorem trimWs_id (v : Bytes) (h : ∀ x ∈ v, isWs x = false) : trimWs v = v := by
  rw [trimWs, dropWhile_none v h, dropWhile_none _ fun x hx => h x (List.mem_reverse.1 hx), List.reverse_reverse]

theorem takeWhile_all {p : UInt8 → Bool} (v : Bytes) (h : ∀ x ∈ v, p x = true) : v.takeWhile p = v := by
  simpa using List.takeWhile_append_of_pos (l₂ := []) h

/-- digits and letters are not list separators, parameter separators or whitespace -/
theorem not_separator (c : UInt8) (h : isDigit c = true ∨ isLowerOrDash (lower c) = true) :
    c ≠ 44 ∧ (c != 59) = true ∧ isWs c = false := by
  revert c
  exact forall_byte (by decide +kernel)

theorem parseCL_single (v : Bytes) (hne : v ≠ []) (hd : v.all isDigit = true) : parseCL [v] = some (natOfDigits v) := by
  have hf (x) (hx : x ∈ v) := not_separator x (.inl (List.all_eq_true.1 hd x hx))
  simp [parseCL, splitOnByte_none 44 v fun x hx => (hf x hx).1, trimWs_id v fun x hx => (hf x hx).2.2,
    List.isEmpty_eq_false_iff.2 hne, hd]

theorem codings_single (t : Bytes) (h : (lowerB t).all isLowerOrDash = true) : codings [t] = [lowerB t] := by
  have hf (x) (hx : x ∈ t) := not_separator x (.inr (List.all_eq_true.1 h _ (List.mem_map_of_mem hx)))
  simp [codings, splitOnByte_none 44 t fun x hx => (hf x hx).1, takeWhile_all t fun x hx => (hf x hx).2.1,
    trimWs_id t fun x hx => (hf x hx).2.2]

/-- RFC 9112 §6.3 on at most one Transfer-Encoding `t` and at most one Content-Length `c` -/
def framingShape : Option Bytes → Option Bytes → Framing
  | none, none => .noBody
  | none, some v => .length (natOfDigits v) false
  | some x, c => if lowerB x = chunkedB then .chunked c.isSome else .length (c.elim 0 natOfDigits) true

theorem framingOf_shape {noH11 : Bool} {st : PState} {fs : List (Bytes × Bytes)} {c t : Option Bytes}
    (h : Inv noH11 st fs c t) : framingOf (!noH11) fs = framingShape t c := by
  have hcl : ∀ v ∈ c, parseCL [v] = some (natOfDigits v) := fun v hv => parseCL_single v (h.clVal v hv).1 (h.clVal v hv).2
  unfold framingOf
  simp only [h.cls, h.tes]
  cases t with
  | none => cases c with
    | none => rfl
    | some v => simp [framingShape, hcl v rfl]
  | some x =>
    obtain ⟨rfl, hx⟩ := h.teVal x rfl
    have hcod : codings [x] = [lowerB x] :=
      codings_single x (by rcases hx with hx | hx <;> rw [hx] <;> decide +kernel)
    have hic : identityB ≠ chunkedB := by decide +kernel
    rcases hx with hx | hx
    · cases c <;> simp [framingShape, hcod, hx, hic, hcl]
    · cases c <;> simp [framingShape, hcod, hx, hic.symm]

end Fh.Proofs.ReqFraming
