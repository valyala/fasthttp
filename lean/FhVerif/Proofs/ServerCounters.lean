/-
The accounting invariant of the server-counter transition system (C12): every counter is the number of connections
that hold a unit of it, a weighted sum over the connection list, and the holders never exceed the limits.

A critical section replaces one connection record `c` by `c'`; a weighted sum then moves by `f c' - f c` (`wsum_set`).
`Moves` says that the counters moved by just these differences, `act_moves` reads this off `act` case by case,
`Inv.move` concludes for all weights at once.
-/
import FhVerif.Model.ServerCounters
import FhVerif.Base.Run

namespace Fh.Proofs.Srv
open Fh Fh.Wsum Fh.Model.Srv

/-- units of `s.concurrency` attributable to a connection -/
def wConc (c : Conn) : Nat :=
  match c.path, c.phase with
  | .direct, .acqTest _ => 1
  | .direct, .acquired => 1
  | .direct, .counted => 1
  | .direct, .serving => 1
  | .direct, .closing => 1
  | .direct, .releasing => 1
  | .serve _, .serving => 1
  | .serve _, .exitConc => 1
  | _, _ => 0

/-- units of `s.open` attributable to a connection -/
def wOpen (c : Conn) : Nat :=
  match c.phase with
  | .counted => 1
  | .noWorker => 1
  | .queued => 1
  | .serving => 1
  | _ => 0

def isIpTest : Phase → Bool
  | .ipTest _ => true
  | _ => false

/-- units of the per-IP counter of `ip` attributable to a connection -/
def wIP (ip : Nat) (c : Conn) : Nat := if c.ip = ip ∧ (isIpTest c.phase = true ∨ c.reg = true) then 1 else 0

/-- busy workers of pool `p` attributable to a connection -/
def wBusy (p : Nat) (c : Conn) : Nat :=
  match c.path, c.phase with
  | .serve q, .queued => if q = p then 1 else 0
  | .serve q, .serving => if q = p then 1 else 0
  | .serve q, .exitConc => if q = p then 1 else 0
  | .serve q, .closing => if q = p then 1 else 0
  | .serve q, .releasing => if q = p then 1 else 0
  | _, _ => 0

/-- `ServeConn` connections that hold the gauge for good (or are about to: their add returned `n ≤ C`) -/
def hConc (C : Nat) (c : Conn) : Nat :=
  match c.path, c.phase with
  | .direct, .acqTest n => if n ≤ C then 1 else 0
  | .direct, .acquired => 1
  | .direct, .counted => 1
  | .direct, .serving => 1
  | .direct, .closing => 1
  | .direct, .releasing => 1
  | _, _ => 0

/-- connections that hold a per-IP registration for good (or are about to: `Register` returned `n ≤ M`) -/
def hIP (M ip : Nat) (c : Conn) : Nat :=
  if c.ip = ip then
    match c.phase with
    | .ipTest n => if n ≤ M then 1 else 0
    | _ => if c.reg then 1 else 0
  else 0

/-- phases before a handler has been started for the connection, the two rejections included -/
def preServing : Phase → Bool
  | .fresh | .ipTest _ | .wrapped | .acqTest _ | .acquired | .counted | .noWorker | .rejecting | .queued => true
  | .done .r429 | .done .r503 => true
  | _ => false

def isDone : Phase → Bool
  | .done _ => true
  | _ => false

/-- what the flags of one connection record say, given its phase -/
structure ConnInv (c : Conn) : Prop where
  closed_noreg : c.closed = true → c.reg = false
  pre : preServing c.phase = true → c.served = false ∧ c.hj = .none ∧ (isDone c.phase = false → c.closed = false)
  rej : isDone c.phase = true → preServing c.phase = true → c.closed = true
  early : (c.phase = .fresh ∨ isIpTest c.phase = true) → c.reg = false

def running (pl : Pool) : Nat := if pl.running then 1 else 0

structure Inv (s : State) : Prop where
  conc : s.conc = wsum wConc s.conns
  opn : s.opn = (s.serves : Int) + ((wsum wOpen s.conns : Nat) : Int)
  ip : ∀ ip, s.perIP ip = wsum (wIP ip) s.conns
  pool : ∀ p pl, s.pools[p]? = some pl →
    pl.workers = pl.idle + pl.stopping + wsum (wBusy p) s.conns ∧ pl.workers ≤ s.cfg.C
  hold : wsum (hConc s.cfg.C) s.conns ≤ s.cfg.C
  iphold : ∀ ip, 0 < s.cfg.M → wsum (hIP s.cfg.M ip) s.conns ≤ s.cfg.M
  serves : s.serves = wsum running s.pools
  cn : ∀ c ∈ s.conns, ConnInv c

theorem inv_init (cfg : Cfg) : Inv (State.init cfg) :=
  ⟨rfl, rfl, fun _ => rfl, fun p pl h => by simp [State.init] at h, Nat.zero_le _, fun _ _ => Nat.zero_le _, rfl,
    fun _ h => nomatch h⟩

/-- the two differ only on a `ServeConn` connection between the add and a failing test -/
theorem hConc_le_wConc (C : Nat) (c : Conn) : hConc C c ≤ wConc c := by
  obtain ⟨path, _, phase, _, _, _, _⟩ := c
  simp only [hConc, wConc]
  split
  · split
    · exact Nat.le_refl 1
    · exact Nat.zero_le _
  all_goals first | exact Nat.le_refl 1 | exact Nat.zero_le _

theorem wIP_of_ne {ip : Nat} {c : Conn} (h : c.ip ≠ ip) : wIP ip c = 0 := by simp [wIP, h]

theorem hIP_of_ne {ip : Nat} {c : Conn} (h : c.ip ≠ ip) (M : Nat) : hIP M ip c = 0 := by simp [hIP, h]

/-- away from the `Register` test both per-IP weights are the registration itself, the summand of `liveFromIP` -/
theorem wIP_eq_reg {c : Conn} (h : isIpTest c.phase = false) (ip : Nat) :
    wIP ip c = if c.ip = ip ∧ c.reg = true then 1 else 0 := by simp [wIP, h]

theorem hIP_eq_reg {c : Conn} (h : isIpTest c.phase = false) (M ip : Nat) :
    hIP M ip c = if c.ip = ip ∧ c.reg = true then 1 else 0 := by
  unfold hIP
  split
  · split
    · rename_i e; rw [e] at h; cases h
    · simp [*]
  · simp [*]

theorem hIP_le_wIP (M ip : Nat) (c : Conn) : hIP M ip c ≤ wIP ip c := by
  cases h : isIpTest c.phase
  · rw [hIP_eq_reg h, wIP_eq_reg h]; exact Nat.le_refl _
  · unfold hIP wIP
    split
    · simp only [true_or, and_true, *, if_true]; split <;> split <;> omega
    · exact Nat.zero_le _

theorem isIpTest_of_not_pre {p : Phase} (h : preServing p = false) : isIpTest p = false := by
  cases p <;> first | rfl | cases h

/-- past the entry path only `closed_noreg` says anything -/
theorem ConnInv.of_not_pre {c : Conn} (hp : preServing c.phase = false) (h : c.closed = true → c.reg = false) :
    ConnInv c := by
  refine ⟨h, fun e => ?_, fun _ e => ?_, fun e => ?_⟩
  · rw [hp] at e; cases e
  · rw [hp] at e; cases e
  · rcases e with e | e
    · rw [e] at hp; cases hp
    · rw [isIpTest_of_not_pre hp] at e; cases e

/-- a hijacked connection has been inside the request loop -/
theorem ConnInv.not_pre_of_hj {c : Conn} (h : ConnInv c) (hhj : c.hj ≠ .none) : preServing c.phase = false :=
  Bool.eq_false_iff.mpr fun hp => hhj (h.pre hp).2.1

/-- Connection `c` becomes `c'` and the shared state `s` becomes `s'` (its `conns` not yet updated): every counter moves
    by what `c` gains or gives up in the corresponding weight, of the per-IP counts only that of `c`'s own address, and at
    most one pool is touched.  A connection may begin to hold the gauge (a registration) for good only while there is
    room (`hold`, `iphold`): the add that overshoots is the one whose test fails.  A field not given holds by `rfl`. -/
structure Moves (s : State) (c : Conn) (s' : State) (c' : Conn) : Prop where
  cn : ConnInv c'
  ip : c'.ip = c.ip := by rfl
  cfg : s'.cfg = s.cfg := by rfl
  serves : s'.serves = s.serves := by rfl
  conc : s'.conc + wConc c = s.conc + wConc c' := by rfl
  opn : s'.opn + (wOpen c : Int) = s.opn + (wOpen c' : Int) := by rfl
  perIP : s'.perIP c.ip + wIP c.ip c = s.perIP c.ip + wIP c.ip c' := by rfl
  other : ∀ j, j ≠ c.ip → s'.perIP j = s.perIP j := by exact fun _ _ => rfl
  pools : (s'.pools = s.pools ∧ ∀ p, wBusy p c' = wBusy p c) ∨
    ∃ p pl pl', s.pools[p]? = some pl ∧ s'.pools = s.pools.set p pl' ∧ pl'.running = pl.running ∧
      pl'.workers + pl.idle + pl.stopping + wBusy p c = pl.workers + pl'.idle + pl'.stopping + wBusy p c' ∧
      pl'.workers ≤ s.cfg.C ∧ ∀ q, q ≠ p → wBusy q c' = wBusy q c := by exact .inl ⟨rfl, fun _ => rfl⟩
  hold : hConc s.cfg.C c' ≤ hConc s.cfg.C c ∨ s.conc + hConc s.cfg.C c' ≤ s.cfg.C := by exact .inl (Nat.le_refl _)
  iphold : hIP s.cfg.M c.ip c' ≤ hIP s.cfg.M c.ip c ∨ s.perIP c.ip + hIP s.cfg.M c.ip c' ≤ s.cfg.M := by
    exact .inl (Nat.le_refl _)

theorem Inv.move {s s' : State} {i : Nat} {c c' : Conn} (hinv : Inv s) (hc : s.conns[i]? = some c)
    (m : Moves s c s' c') : Inv { s' with conns := s.conns.set i c' } := by
  have set := fun f => wsum_set f s.conns i c c' hc
  refine ⟨?_, ?_, fun j => ?_, fun q pl'' hq => ?_, ?_, fun j hM => ?_, ?_, fun x hx => ?_⟩ <;>
    simp only [m.cfg, m.serves] at *
  · exact Nat.add_right_cancel (m.conc.trans (hinv.conc ▸ (set wConc).symm))
  · have := set wOpen
    have := hinv.opn
    have := m.opn
    omega
  · by_cases h : c.ip = j
    · subst h; exact Nat.add_right_cancel (m.perIP.trans (hinv.ip _ ▸ (set (wIP _)).symm))
    · -- a connection weighs nothing at an address that is not its own
      rw [m.other j (Ne.symm h), hinv.ip j, wsum_set_same _ _ _ _ _ hc (by rw [wIP_of_ne h, wIP_of_ne (m.ip ▸ h)])]
  · have := set (wBusy q)
    rcases m.pools with ⟨e, hb⟩ | ⟨p, pl, pl', hp, e, _, hbal, hle, hb⟩ <;> rw [e] at hq
    · have := hinv.pool q pl'' hq
      have := hb q
      omega
    · rcases getElem?_set_some hq with ⟨rfl, rfl⟩ | ⟨hne, hq⟩
      · have := hinv.pool q pl hp
        omega
      · have := hinv.pool q pl'' hq
        have := hb q hne
        omega
  · have := set (hConc s.cfg.C)
    have := hinv.hold
    have := wsum_le _ _ s.conns fun x _ => hConc_le_wConc s.cfg.C x
    have := hinv.conc
    have := m.hold
    omega
  · by_cases h : c.ip = j
    · subst h
      have := set (hIP s.cfg.M c.ip)
      have := hinv.iphold c.ip hM
      have := wsum_le _ _ s.conns fun x _ => hIP_le_wIP s.cfg.M c.ip x
      have := hinv.ip c.ip
      have := m.iphold
      omega
    · rw [wsum_set_same _ _ _ _ _ hc (by rw [hIP_of_ne h, hIP_of_ne (m.ip ▸ h)])]; exact hinv.iphold j hM
  · rw [hinv.serves]
    rcases m.pools with ⟨e, _⟩ | ⟨p, pl, pl', hp, e, hr, _⟩ <;> rw [e]
    exact (wsum_set_same _ _ _ _ _ hp (by rw [running, running, hr])).symm
  · rcases List.mem_or_eq_of_mem_set hx with h | rfl
    · exact hinv.cn x h
    · exact m.cn

theorem ip_ge {s : State} (hinv : Inv s) {c : Conn} (hm : c ∈ s.conns) (ip : Nat) : wIP ip c ≤ s.perIP ip := by
  rw [hinv.ip ip]; exact wsum_pos_of_mem _ _ _ hm

theorem closeS_eq (s : State) (c : Conn) (err : Bool) :
    closeS s c err = { s with perIP := if c.reg = true then ipDec s.perIP c.ip else s.perIP } := by
  cases err <;> cases h : c.reg <;> simp [closeS, h]

/-- `c.Close()`: the registration, if there is one, is given back and nothing else moves; the phase may advance if that
    changes no weight -/
theorem Moves.close {s : State} {c c' : Conn} (err : Bool) (hge : wIP c.ip c ≤ s.perIP c.ip)
    (hnt : isIpTest c.phase = false) (cn : ConnInv c') (hreg : c'.reg = false := by rfl)
    (hnt' : isIpTest c'.phase = false := by rfl) (ip : c'.ip = c.ip := by rfl)
    (conc : wConc c' = wConc c := by rfl) (opn : wOpen c' = wOpen c := by rfl)
    (busy : ∀ p, wBusy p c' = wBusy p c := by exact fun _ => rfl)
    (hold : ∀ C, hConc C c' = hConc C c := by exact fun _ => rfl) : Moves s c (closeS s c err) c' := by
  rw [closeS_eq]
  refine { cn, ip, conc := conc ▸ rfl, opn := opn ▸ rfl, pools := .inl ⟨rfl, busy⟩,
           hold := .inl (by rw [hold]; exact Nat.le_refl _), perIP := ?_, other := fun j hj => ?_, iphold := .inl ?_ }
  · have h' : wIP c.ip c' = 0 := by simp [wIP, hnt', hreg]
    rw [h']
    cases hr : c.reg
    · simp [wIP, hnt, hr]
    · simp [wIP, hnt, hr, ipDec] at hge ⊢; omega
  · split
    · exact if_neg hj
    · rfl
  · simp [hIP_eq_reg hnt', hreg]

theorem act_moves {s s' : State} {c c' : Conn} {a : Act} (hinv : Inv s) (hm : c ∈ s.conns)
    (h : act s c a = some (s', c')) : Moves s c s' c' := by
  have hci := hinv.cn c hm
  have hgeC : wConc c ≤ s.conc := hinv.conc ▸ wsum_pos_of_mem _ _ _ hm
  have hgeI := ip_ge hinv hm c.ip
  obtain ⟨path, cip, phase, reg, closed, served, hj⟩ := c
  cases a <;> dsimp only [act] at h
  case register =>
    split at h <;> cases h
    rename_i hg; cases hg.1
    cases hci.early (.inl rfl)
    -- the weights of a phase outside both entry points are 0 whatever the path, but reduce only once it is known
    cases path <;> exact {
      cn := ⟨fun _ => rfl, hci.pre, nofun, fun _ => rfl⟩
      perIP := by simp [ipInc, wIP, isIpTest]
      other := fun j h => if_neg h
      iphold := by simp only [hIP, if_true]; split <;> omega }
  case skipWrap =>
    split at h <;> cases h
    rename_i hg; cases hg.1
    -- one step along the entry path: `closed_noreg` and `pre` are as before, `rej` and `early` do not apply
    cases path <;> exact { cn := ⟨hci.1, hci.2, nofun, nofun⟩ }
  case ipDecide =>
    split at h
    · cases hci.early (.inr rfl)
      split at h <;> cases h
      · cases path <;> exact {
          cn := ⟨fun _ => rfl, fun _ => ⟨(hci.pre rfl).1, (hci.pre rfl).2.1, nofun⟩, fun _ _ => rfl, nofun⟩
          perIP := by simp [ipDec, wIP, isIpTest] at hgeI ⊢; omega
          other := fun j h => if_neg h
          iphold := .inl (by simp [hIP]) }
      · cases (hci.pre rfl).2.2 rfl
        cases path <;> exact {
          cn := ⟨nofun, hci.pre, nofun, nofun⟩
          perIP := by simp [wIP, isIpTest]
          iphold := .inl (by simp [hIP, Nat.le_of_not_lt ‹_›]) }
    · cases h
  case acqAdd =>
    split at h <;> cases h
    rename_i hg; cases hg.1; cases hg.2
    exact { cn := ⟨hci.1, hci.2, nofun, nofun⟩, hold := by simp only [hConc]; split <;> omega }
  case acqDecide =>
    split at h
    · split at h <;> cases h
      · exact { cn := ⟨hci.1, hci.2, nofun, nofun⟩, hold := .inl (by simp [hConc, *]) }
      · exact { cn := ⟨hci.1, hci.2, nofun, nofun⟩, conc := Nat.sub_add_cancel hgeC, hold := .inl (Nat.zero_le _) }
    · cases h
  case openInc =>
    split at h <;> cases h
    all_goals exact { cn := ⟨hci.1, hci.2, nofun, nofun⟩, opn := Int.add_zero _ }
  case getCh =>
    split at h
    · split at h
      · cases h
      · rename_i p _ pl hp
        have hpl := hinv.pool p pl hp
        have hq : ∀ q, q ≠ p → (if p = q then 1 else 0) = 0 := fun q hq => if_neg (Ne.symm hq)
        split at h
        · cases h
          exact { cn := ⟨hci.1, hci.2, nofun, nofun⟩
                  pools := .inr ⟨p, pl, _, hp, rfl, rfl, by simp only [wBusy, if_true]; omega, hpl.2, hq⟩ }
        · split at h <;> cases h
          · exact { cn := ⟨hci.1, hci.2, nofun, nofun⟩
                    pools := .inr ⟨p, pl, _, hp, rfl, rfl, by simp only [wBusy, if_true]; omega, by simp only; omega, hq⟩ }
          · exact { cn := ⟨hci.1, hci.2, nofun, nofun⟩ }
    · cases h
  case openDec =>
    split at h <;> cases h
    exact { cn := ⟨hci.1, hci.2, nofun, nofun⟩, opn := by simp [wOpen] }
  case rejectClose err =>
    split at h <;> cases h
    rename_i hg; cases hg
    cases path <;> exact .close err hgeI rfl
      ⟨fun _ => rfl, fun _ => ⟨(hci.pre rfl).1, (hci.pre rfl).2.1, nofun⟩, fun _ _ => rfl, nofun⟩
  case concInc | startServing =>
    split at h <;> cases h
    exact { cn := .of_not_pre rfl hci.1 }
  case hijackStart =>
    split at h <;> cases h
    rename_i hg; cases hg.1
    exact { cn := .of_not_pre rfl hci.1 }
  case cleanupOpen =>
    split at h <;> cases h
    all_goals exact { cn := .of_not_pre rfl hci.1, opn := by simp [wOpen] }
  case cleanupConc | releaseConc =>
    split at h <;> cases h
    exact { cn := .of_not_pre rfl hci.1, conc := Nat.sub_add_cancel hgeC, hold := .inl (Nat.zero_le _) }
  case closeConn err =>
    split at h
    · rename_i hg; cases hg
      split at h <;> cases h
      · cases path <;> exact .close err hgeI rfl (.of_not_pre rfl fun _ => rfl)
      · cases path <;> exact { cn := .of_not_pre rfl hci.1 }
    · cases h
  case workerRelease =>
    split at h
    · split at h
      · cases h
      · rename_i p _ pl hp
        have hpl := hinv.pool p pl hp
        have hb := wsum_pos_of_mem (wBusy p) _ _ hm
        have hq : ∀ q, q ≠ p → 0 = (if p = q then 1 else 0) := fun q hq => (if_neg (Ne.symm hq)).symm
        split at h <;> cases h
        · exact { cn := .of_not_pre rfl hci.1
                  pools := .inr ⟨p, pl, _, hp, rfl, rfl, by simp only [wBusy, if_true] at hb ⊢; omega, by simp only; omega, hq⟩ }
        · exact { cn := .of_not_pre rfl hci.1
                  pools := .inr ⟨p, pl, _, hp, rfl, rfl, by simp only [wBusy, if_true]; omega, hpl.2, hq⟩ }
    · cases h
  case hijackReturn =>
    split at h <;> cases h
    rename_i hg; cases hg
    exact { cn := .of_not_pre (hci.not_pre_of_hj nofun) hci.1 }
  case hijackClose err =>
    split at h <;> cases h
    rename_i hg; cases hg.1
    have hp := hci.not_pre_of_hj nofun
    have hnt := isIpTest_of_not_pre hp
    exact .close err hgeI hnt (.of_not_pre hp fun _ => rfl) rfl hnt
  case userClose err =>
    split at h <;> cases h
    rename_i hg
    have hp := hci.not_pre_of_hj (by rcases hg.2 with e | e <;> rw [e] <;> nofun)
    have hnt := isIpTest_of_not_pre hp
    exact .close err hgeI hnt (.of_not_pre hp fun _ => rfl) rfl hnt
  case dupClose =>
    split at h <;> cases h
    exact { cn := hci }

theorem updPool_spec {s s' : State} {p : Nat} {f : Pool → Option Pool} (h : updPool s p f = some s') :
    ∃ pl pl', s.pools[p]? = some pl ∧ f pl = some pl' ∧ s' = { s with pools := s.pools.set p pl' } := by
  unfold updPool at h
  split at h
  · cases h
  · rename_i pl hp
    split at h <;> cases h
    rename_i pl' hf
    exact ⟨pl, pl', hp, hf, rfl⟩

structure Reach (cfg : Cfg) (s : State) : Prop where
  inv : Inv s
  /-- no connection occupies a worker of a pool that does not exist -/
  ghost : ∀ p, s.pools.length ≤ p → wsum (wBusy p) s.conns = 0
  cfg : s.cfg = cfg

/-- a new connection appears: it holds nothing, so no sum moves -/
theorem Reach.newConn {cfg : Cfg} {s : State} (r : Reach cfg s) (path : Path) (ip : Nat) :
    Reach cfg { s with conns := s.conns ++ [Conn.fresh path ip] } := by
  obtain ⟨hinv, hg, hcfg⟩ := r
  have h1 : wConc (Conn.fresh path ip) = 0 := by cases path <;> rfl
  have h2 : wOpen (Conn.fresh path ip) = 0 := rfl
  have h3 : ∀ j, wIP j (Conn.fresh path ip) = 0 := fun j => by simp [wIP, Conn.fresh, isIpTest]
  have h4 : ∀ p, wBusy p (Conn.fresh path ip) = 0 := fun p => by cases path <;> rfl
  have h5 : hConc s.cfg.C (Conn.fresh path ip) = 0 := by cases path <;> rfl
  have h6 : ∀ j, hIP s.cfg.M j (Conn.fresh path ip) = 0 := fun j => by simp [hIP, Conn.fresh]
  have cn : ConnInv (Conn.fresh path ip) := ⟨nofun, fun _ => ⟨rfl, rfl, fun _ => rfl⟩, nofun, fun _ => rfl⟩
  refine ⟨⟨?_, ?_, fun j => ?_, fun p pl hp => ?_, ?_, fun j hM => ?_, hinv.serves, fun c hc =>
    (List.mem_append.mp hc).elim (hinv.cn c) fun h => List.mem_singleton.mp h ▸ cn⟩, fun q hq => ?_, hcfg⟩ <;>
    simp only [wsum_snoc, h1, h2, h3, h4, h5, h6, Nat.add_zero]
  · exact hinv.conc
  · exact hinv.opn
  · exact hinv.ip j
  · exact hinv.pool p pl hp
  · exact hinv.hold
  · exact hinv.iphold j hM
  · exact hg q hq

/-- a step of pool `p` alone; when it stops the accept loop, the loop's unit of `s.open` goes with it -/
theorem Reach.pool {cfg : Cfg} {s : State} {p : Nat} {pl pl' : Pool} {opn' : Int} {serves' : Nat} (r : Reach cfg s)
    (hp : s.pools[p]? = some pl)
    (heq : pl'.workers + pl.idle + pl.stopping = pl.workers + pl'.idle + pl'.stopping) (hle : pl'.workers ≤ s.cfg.C)
    (hserves : serves' + running pl = s.serves + running pl')
    (hopn : opn' + (running pl : Int) = s.opn + (running pl' : Int)) :
    Reach cfg { s with pools := s.pools.set p pl', opn := opn', serves := serves' } := by
  obtain ⟨hinv, hg, hcfg⟩ := r
  refine ⟨⟨hinv.conc, ?_, hinv.ip, fun q pl'' hq => ?_, hinv.hold, hinv.iphold, ?_, hinv.cn⟩,
    fun q hq => hg q (by simpa using hq), hcfg⟩
  · have := hinv.opn
    simp only
    omega
  · rcases getElem?_set_some hq with ⟨rfl, rfl⟩ | ⟨_, hq⟩
    · have := (hinv.pool q pl hp).1
      exact ⟨by simp only; omega, hle⟩
    · exact hinv.pool q pl'' hq
  · have := wsum_set running s.pools p pl pl' hp
    have := hinv.serves
    simp only
    omega

theorem Reach.step {cfg : Cfg} {s s' : State} {e : Ev} (r : Reach cfg s) (h : step s e = some s') : Reach cfg s' := by
  have ⟨hinv, hg, hcfg⟩ := r
  cases e <;> simp only [Model.Srv.step] at h
  case conn i a =>
    split at h
    · cases h
    · rename_i c hc
      split at h <;> cases h
      rename_i s1 c1 ha
      have m := act_moves hinv (List.mem_of_getElem? hc) ha
      refine ⟨hinv.move hc m, fun q hq => ?_, m.cfg.trans hcfg⟩
      rcases m.pools with ⟨e, hb⟩ | ⟨p, pl, pl', hp, e, _, _, _, hb⟩ <;> rw [e] at hq
      · exact (wsum_set_same _ _ _ _ _ hc (hb q)).trans (hg q hq)
      · -- the pool that was touched exists, so it is not `q`
        rw [List.length_set] at hq
        have hne := Nat.ne_of_gt (Nat.lt_of_lt_of_le (List.getElem?_eq_some_iff.mp hp).1 hq)
        exact (wsum_set_same _ _ _ _ _ hc (hb q hne)).trans (hg q hq)
  case accept p ip =>
    split at h
    · split at h <;> cases h
      exact r.newConn _ _
    · cases h
  case direct ip =>
    cases h
    exact r.newConn _ _
  case cleanIdle p | workerExit p =>
    obtain ⟨pl, pl', hp, hf, rfl⟩ := updPool_spec h
    split at hf <;> cases hf
    have := hinv.pool p pl hp
    exact r.pool hp (by simp only; omega) (by simp only; omega) rfl rfl
  case serveStart =>
    cases h
    refine ⟨⟨hinv.conc, ?_, hinv.ip, fun p pl hp => ?_, hinv.hold, hinv.iphold, ?_, hinv.cn⟩,
      fun q hq => hg q (by simp at hq; omega), hcfg⟩
    · have := hinv.opn
      simp only
      omega
    · -- the new pool is empty, and no connection belongs to it yet
      by_cases hlt : p < s.pools.length
      · exact hinv.pool p pl (List.getElem?_append_left hlt ▸ hp)
      · rw [List.getElem?_append_right (Nat.le_of_not_lt hlt), List.getElem?_singleton] at hp
        split at hp <;> cases hp
        rw [hg p (Nat.le_of_not_lt hlt)]
        exact ⟨rfl, Nat.zero_le _⟩
    · simp only; rw [wsum_snoc, ← hinv.serves]; rfl
  case serveStop p =>
    split at h
    · rw [Option.map_eq_some_iff] at h
      obtain ⟨s1, h1, rfl⟩ := h
      obtain ⟨pl, pl', hp, hf, rfl⟩ := updPool_spec h1
      split at hf <;> cases hf
      rename_i hrun
      have hr : running pl = 1 := if_pos hrun
      have := hinv.serves ▸ wsum_pos_of_mem running _ _ (List.mem_of_getElem? hp)
      have := hinv.pool p pl hp
      exact r.pool hp (by simp only; omega) (by simp only; omega)
        (show s.serves - 1 + running pl = s.serves + 0 by omega)
        (show s.opn - 1 + (running pl : Int) = s.opn + (0 : Nat) by omega)
    · cases h

theorem run_eq_iter (s : State) (evs : List Ev) : run s evs = iter step s evs := by
  induction evs generalizing s with
  | nil => rfl
  | cons e es ih => simp only [run, Iter.iter_cons]; cases step s e <;> simp [ih]

theorem reach {cfg : Cfg} {evs : List Ev} {s : State} (h : run (State.init cfg) evs = some s) : Reach cfg s :=
  Iter.inv (fun _ _ _ => Reach.step) ⟨inv_init cfg, fun _ _ => rfl, rfl⟩ (run_eq_iter _ evs ▸ h)

end Fh.Proofs.Srv
